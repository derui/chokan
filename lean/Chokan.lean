-- Root of the `Chokan` library: importing the twenty property files brings in every model, generated table and lemma.
import Chokan.Props.C01
import Chokan.Props.C02
import Chokan.Props.C03
import Chokan.Props.C04
import Chokan.Props.C05
import Chokan.Props.C06
import Chokan.Props.C07
import Chokan.Props.C08
import Chokan.Props.C09
import Chokan.Props.C10
import Chokan.Props.C11
import Chokan.Props.C12
import Chokan.Props.C13
import Chokan.Props.C14
import Chokan.Props.C15
import Chokan.Props.C16
import Chokan.Props.C17
import Chokan.Props.C18
import Chokan.Props.C19
import Chokan.Props.C20
