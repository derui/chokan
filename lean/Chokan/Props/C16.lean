/-
C16 — conversion context changes only what it is documented to change.

Model: Chokan.Model.Kkc (`isMergeable`, `fromInput`, `edgeScore`, `nodeScore`) with the score tables of
Chokan.Gen.Kkc; which context a request runs under: Chokan.Gen.Server.
-/
import Chokan.Gen.Kkc
import Chokan.Lemmas.Kkc
import Chokan.Gen.Server

namespace Chokan.Props.C16
open Chokan.Kkc Chokan.Dic

def tables : Tables :=
  { wordEdges := Chokan.Gen.Kkc.wordEdges, virtEdges := Chokan.Gen.Kkc.virtEdges, headEdges := Chokan.Gen.Kkc.headEdges,
    mergeHead := Chokan.Gen.Kkc.mergeHead, properBonus := Chokan.Gen.Kkc.properBonus }

/-- The only context-dependent step of the construction (`is_mergeable_ancillary` at the head) does not
distinguish proper-noun mode from normal mode. -/
theorem C16_proper_mergeable (g : Graph) (node : Node) :
    isMergeable tables g .proper node = isMergeable tables g .normal node := by
  unfold isMergeable
  split
  · cases node with
    | word e i w f => exact headMergeable_congr tables _ _ _ (by decide)
    | _ => rfl
  · rfl

/-- Proper-noun mode builds exactly the lattice of normal mode. -/
theorem C16_proper_lattice (input : Str) (d : Dict) :
    fromInput tables input d .proper = fromInput tables input d .normal := by
  unfold fromInput
  simp only [mergeAncillaries, C16_proper_mergeable]

/-- Edge scores do not depend on whether the context is proper or normal. -/
theorem C16_proper_edge (prev cur : Node) :
    edgeScore tables .proper prev cur = edgeScore tables .normal prev cur := by
  have hhead (sp : Speech) : headEdge .proper sp tables.headEdges = headEdge .normal sp tables.headEdges :=
    (headEdge_unnamed _ sp _ (by decide)).trans (headEdge_unnamed _ sp _ (by decide)).symm
  cases prev <;> cases cur <;> first | rfl | exact hhead _

/-- Node scores differ by exactly the fixed bonus for proper nouns (with the same learned count). -/
theorem C16_proper_node (f f' : Freq) (n : Node)
    (hf : ∀ w, freqOf f' .proper w = freqOf f .normal w) :
    nodeScore tables .proper f' n =
      (nodeScore tables .normal f n).map
        (· + (match n with | .word _ _ w _ => if w.speech.isNounProper then tables.properBonus else 0 | _ => 0)) := by
  cases n <;> simp [nodeScore, hf]

theorem C16_bonus_positive : 0 < tables.properBonus := by decide

/-- In no context can a particle or auxiliary verb of the ancillary dictionary be merged at the
head of the input. -/
theorem C16_no_ancillary_particle_head (g : Graph) (ctx : Ctx) (e i : Nat) (w : Word) (f : Score)
    (hs : (Node.word e i w f).startAt = 0)
    (hp : (∃ t, w.speech = .particle t) ∨ w.speech = .auxiliaryVerb) :
    isMergeable tables g ctx (.word e i w f) = false := by
  have hall : tables.mergeHead.all (fun p => match p.1 with
      | .affix _ => true | .counter => true | _ => false) = true := by decide
  simp only [isMergeable, hs, beq_self_eq_true, if_true, headMergeable]
  rw [List.find?_eq_none.2 fun p hmem hm => ?_]
  -- every row of the table is for an affix or a counter, and such a pattern matches neither a particle nor an auxiliary verb
  have hrow := List.all_eq_true.1 hall p hmem
  cases hpat : p.1 <;> rw [hpat] at hrow <;> cases hrow
  all_goals rcases hp with ⟨t, ht⟩ | ht <;> rw [hpat, ht] at hm <;> cases hm

/-! ### the "only suffix / counter headed additions" clause is false (recorded finding D11) -/

def headIs (p : Speech → Bool) (c : Cand) : Bool :=
  match c.chain with
  | .bos :: .word _ _ w _ :: _ => p w.speech
  | _ => false

/-- The clause, as a check of one query: every candidate of `ctx` is a candidate of the normal context
or begins with a word of the class that context adds. -/
def onlyAdds (ctx : Ctx) (p : Speech → Bool) (input : Str) (d : Dict) (n fuel : Nat) : Bool :=
  match getCandidates tables input d .normal [] n fuel, getCandidates tables input d ctx [] n fuel with
  | some R, some R' => R'.all fun c => memStr c.text (R.map Cand.text) || headIs p c
  | _, _ => true

def d11Dict : Dict :=
  Dict.mk [([12367, 12427, 12414], [⟨[36554], [12367, 12427, 12414], .noun .common⟩])] [[12367, 12427, 12414]]
    [([12391], [⟨[12487], [12391], .particle .case⟩]), ([12399], [⟨[12495], [12399], .particle .adverbial⟩]),
     ([12367, 12427, 12414, 12391], [⟨[36554, 20986], [12367, 12427, 12414, 12391], Speech.affix AffixVariant.suffix⟩])]
    [[12391], [12399], [12367, 12427, 12414, 12391]]

/-- **Refutation by a concrete witness** (kernel-evaluated): input くるまでは with 車/くるま, デ/で (case
particle), ハ/は (adverbial particle) and the suffix 車出/くるまで.  In foreign-word context the suffix is
merged at the head; it ends right before は, which makes the particle ハ mergeable there, and the
candidate 車デハ — which begins with a noun, not a suffix — appears only in that context.  The same
witness is replayed on the implementation by the C16 check (known finding D11-foreign). -/
theorem C16_only_suffix_headed_additions_false :
    onlyAdds .foreignWord Speech.isSuffix [12367, 12427, 12414, 12391, 12399] d11Dict 10 200 = false := by
  decide +kernel


/-- **Which context a request runs under** (regenerated from method.rs): the three kinds of GetCandidates' `context` map to
their own contexts, a request without `context` is a normal conversion, and GetProperCandidates — and only it — converts
(and files its session) under the proper-noun context. -/
theorem C16_rpc_contexts :
    Chokan.Gen.Server.rpcContexts = [("Normal", .normal), ("ForeignWord", .foreignWord), ("Numeral", .numeral)] ∧
    Chokan.Gen.Server.rpcDefaultKind = "Normal" ∧ Chokan.Gen.Server.rpcProperContext = .proper :=
  ⟨rfl, rfl, rfl⟩

end Chokan.Props.C16
