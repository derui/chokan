/-
C12 — Conjugation keeps stem and okurigana aligned; every guessable speech conjugates.

Model: Chokan.Model.Dic (hand-written from speech.rs / entry.rs, tied by the `conj`,
`guessform`, `newguessed`, `words` correspondence streams against the real `dic` crate).
Data: Chokan.Gen.Dic (the conjugation and guess tables, regenerated on every run).
Specification data (gojūon rows, euphonic set, core forms per class): Chokan.Lemmas.Dic.
-/
import Chokan.Lemmas.Dic

namespace Chokan.Props.C12
open Chokan.Dic Chokan.Gen.Dic

/-- (a) Alignment, for every (class,row) of the table and all stems/readings: every generated
form is `stem ++ ok`, `reading ++ ok` for one okurigana `ok` of the arm; the k-irregular verb
(the only `kahen` arm) replaces the reading's last kana: `stem ++ ok.tail`, `reading.dropLast ++ ok`. -/
theorem C12_aligned (cls : VerbClass) (row stem rd : Str) (fs : List (Str × Str))
    (h : toForms conjTable adjectiveForms adjectivalVerbForms (.verb cls row) stem rd = some fs) :
    ∃ arm, lookupArm cls row conjTable = some arm ∧ ∀ p ∈ fs,
      match arm with
      | .kahen o => ∃ ok ∈ o, p = (stem ++ ok.tail, rd.dropLast ++ ok)
      | a => ∃ o, a.okuriFor rd = some o ∧ ∃ ok ∈ o, p = (stem ++ ok, rd ++ ok) := by
  -- on a verb, `toForms` is `(lookupArm cls row conjTable).bind (Arm.forms stem rd)`
  obtain ⟨arm, ha, h⟩ := Option.bind_eq_some_iff.1 h
  refine ⟨arm, ha, fun p hp => ?_⟩
  cases arm with
  | kahen o =>
    simp only [Arm.forms] at h
    split at h
    · cases h
    · cases h
      obtain ⟨ok, hok, rfl⟩ := List.mem_map.1 hp
      exact ⟨ok, hok, rfl⟩
  | unknown => cases h
  | fixed _ | byteLen1 _ _ | lastCharIs _ _ _ =>
    simp only [Arm.forms] at h
    obtain ⟨o, ho, rfl⟩ := Option.map_eq_some_iff.1 h
    obtain ⟨ok, hok, rfl⟩ := List.mem_map.1 hp
    exact ⟨o, ho, ok, hok, rfl⟩

/-- The k-irregular treatment is used by exactly one table row: カ行変. -/
theorem C12_kahen_only : ∀ e ∈ conjTable, (∃ o, e.2 = Arm.kahen o) → e.1 = (VerbClass.hen, [0x30AB]) := by
  have h : (conjTable.all fun e => match e.2 with
      | .kahen _ => decide (e.1 = (VerbClass.hen, [0x30AB])) | _ => true) = true := by decide +kernel
  intro e he ⟨o, ho⟩
  have := List.all_eq_true.1 h e he
  simp only [ho] at this
  exact of_decide_eq_true this

/-- (a') The same alignment for adjectives and adjectival verbs. -/
theorem C12_adjectives (stem rd : Str) (sp : Speech) (hs : sp = .adjective ∨ sp = .adjectivalVerb)
    (fs : List (Str × Str))
    (h : toForms conjTable adjectiveForms adjectivalVerbForms sp stem rd = some fs) :
    ∀ p ∈ fs, ∃ ok, ok ∈ (if sp = .adjective then adjectiveForms else adjectivalVerbForms) ∧
      p = (stem ++ ok, rd ++ ok) := by
  intro p hp
  rcases hs with rfl | rfl <;>
  · simp only [toForms, Option.some.injEq] at h; subst h
    obtain ⟨ok, hok, rfl⟩ := List.mem_map.1 hp
    exact ⟨ok, by simpa using hok, rfl⟩

/-- Words without conjugation are the entry itself. -/
theorem C12_plain (sp : Speech) (stem rd : Str)
    (h : ∀ c r, sp ≠ .verb c r) (h1 : sp ≠ .adjective) (h2 : sp ≠ .adjectivalVerb) :
    toForms conjTable adjectiveForms adjectivalVerbForms sp stem rd = some [(stem, rd)] := by
  cases sp <;> first | rfl | exact absurd rfl (h _ _) | exact absurd rfl h1 | exact absurd rfl h2

/-- (b) Every non-empty okurigana of every row starts in the verb's own kana row or is a
euphonic variant (っ ん い). Whole table, kernel-evaluated. -/
theorem C12_row : rowCheck conjTable = true := by decide +kernel

/-- (b') … at full strength: the head is in the verb's own row or is a euphonic variant **of that class and row**
(い for カ/ガ行五段, っ for タ/ラ/ワ行五段, ん for ナ/バ/マ行五段, nothing anywhere else), and the one stem-dependent
arm is カ行五段's, which takes っ after a stem reading in い (行く). -/
theorem C12_row_strict : rowCheckStrict conjTable = true := by decide +kernel

/-- (c) The core forms of each conjugation class are present in every branch of every row. -/
theorem C12_core : coreCheck conjTable = true := by decide +kernel

/-- (d) Every part of speech the guesser can return is conjugable — its row exists, its arm
cannot panic for any stem/reading — and the form that precedes ない is among its okurigana
(for every reading that is not a single byte; see `Arm.multiByteBranches`). -/
theorem C12_guess_conjugable : guessCheck conjTable guessTable = true := by decide +kernel

/-- (d') … hence conjugating a guessed verb never panics, for any stem and reading. -/
theorem C12_guess_total (ch : Nat) (cls : VerbClass) (row : Str)
    (hg : guessForm ch guessTable = some (cls, row)) (stem rd : Str) :
    ∃ fs, toForms conjTable adjectiveForms adjectivalVerbForms (.verb cls row) stem rd = some fs := by
  have := List.all_eq_true.1 C12_guess_conjugable (ch, cls, row) (guessForm_mem ch cls row guessTable hg)
  simp only at this
  split at this
  · next arm ha =>
    rw [toForms, ha]
    obtain ⟨htotal, _⟩ := Bool.and_eq_true_iff.1 this
    exact arm.forms_of_total htotal stem rd
  · cases this

/-- (e) Guessing accepts every well-formed pair: if word = stem ++ e and reading = srd ++ e share
the kana ending `e`, and the guesser cuts no more than `e`, an entry is produced (no panic in the
byte slicing) and the same cut is removed from the word and from the reading. -/
theorem C12_guess_accepts (stem srd e : Str)
    (hcut : (stem ++ e).length - (guess guessTable (stem ++ e)).2.length ≤ e.length) :
    ∃ entry, newGuessed guessTable (srd ++ e) (stem ++ e) = some entry ∧
      ∃ cut, entry.stem ++ cut = stem ++ e ∧ entry.stemReading ++ cut = srd ++ e ∧
        entry.speech = (guess guessTable (stem ++ e)).1 := by
  -- the guessed stem lies between `stem` and `stem ++ e`: it is `stem ++ e₁` with `e = e₁ ++ cut`
  have hg := guess_prefix guessTable (stem ++ e)
  have hlen := hg.length_le
  obtain ⟨e₁, he₁⟩ : stem <+: (guess guessTable (stem ++ e)).2 :=
    List.prefix_of_prefix_length_le (List.prefix_append _ _) hg (by rw [List.length_append] at hcut hlen; omega)
  obtain ⟨cut, hc⟩ := hg
  rw [← he₁, List.append_assoc] at hc
  have he : e = e₁ ++ cut := (List.append_cancel_left hc).symm
  subst he
  rw [← List.append_assoc, ← List.append_assoc]
  exact ⟨_, newGuessed_cut guessTable (stem ++ e₁) (srd ++ e₁) cut (by rw [List.append_assoc, he₁]), cut, rfl, rfl, rfl⟩

/-- Non-vacuity: a guessed ichidan verb (食べない/たべない) and its forms. -/
example : newGuessed guessTable [0x305F, 0x3079, 0x306A, 0x3044] [0x98DF, 0x3079, 0x306A, 0x3044]
    = some ⟨[0x98DF], [0x305F], .verb .simoIchidan [0x30D0]⟩ := by decide +kernel
example : toForms conjTable adjectiveForms adjectivalVerbForms (.verb .simoIchidan [0x30D0]) [0x98DF] [0x305F]
    = some [([0x98DF, 0x3079], [0x305F, 0x3079])] := by decide +kernel

end Chokan.Props.C12
