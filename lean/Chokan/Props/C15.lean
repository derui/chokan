/-
C15 — an acknowledged conversion can always be confirmed; no learning is silently lost.

Three levels. Histories of atomic steps (Chokan.Model.Server): a conversion step records its session in the same step
that produces the answer (`convert`), so in every history a confirmation issued after the answer finds the session. The
order of events inside the handlers as extracted from the code (Model/Conc, `Gen.Server`). Every interleaving of those
events: the session store alone (`dstep`, Lemmas/ConcSess) and with the data (`fstep`, Lemmas/FineSess).
-/
import Chokan.Model.Server
import Chokan.Props.C03
import Chokan.Props.C08
import Chokan.Lemmas.ConcSess
import Chokan.Lemmas.FineSess
import Chokan.Lemmas.ServerStep

namespace Chokan.Props.C15
open Chokan.Server Chokan.Kkc Chokan.Dic

/-- The session a conversion answers with is stored when the answer exists. -/
theorem C15_session_recorded (c : Cfg) (s s' : State) (ctx : Ctx) (input : Str) (sid : Nat) (cs : List Cand)
    (h : convert c s ctx input = some (s', sid, cs)) (hfresh : ∀ x ∈ s.sessions, x.sid ≠ sid) :
    ∃ sess, s'.sessions.find? (·.sid == sid) = some sess ∧ sess.ctx = ctx ∧ sess.cands = cs := by
  obtain ⟨rfl, rfl⟩ := convert_eq_some h
  have : s.sessions.find? (·.sid == s.nextSid) = none :=
    List.find?_eq_none.2 fun x hx => by simpa using hfresh x hx
  exact ⟨⟨s.nextSid, ctx, cs⟩, by simp [List.find?_append, this], rfl, rfl⟩

/-- Session ids are fresh: every stored id is below the next one to be issued. -/
def SidsBelow (s : State) : Prop := ∀ x ∈ s.sessions, x.sid < s.nextSid

/-- Session ids are fresh in every reachable state (any history from a start state). -/
theorem C15_sids_fresh_history (c : Cfg) (s : State) (ops : List Op) (h : SidsBelow s) :
    SidsBelow (runOps c s ops) := by
  refine List.foldlRecOn (motive := SidsBelow) ops (stepOp c) h fun s h op _ x hx => ?_
  rcases stepOp_sessions c s op with ⟨_, _, hs, hn⟩ | ⟨hn, hs | ⟨_, _, _, _, hs⟩⟩
  all_goals
    rw [hn]
    rw [hs] at hx
  · -- a conversion appends a session with the next id
    rcases List.mem_append.1 hx with hx | hx
    · exact Nat.lt_succ_of_lt (h x hx)
    · cases List.mem_singleton.1 hx
      exact Nat.lt_succ_self _
  · -- the sessions stay
    exact h x hx
  · -- a confirmation removes sessions
    exact h x (List.mem_filter.1 hx).1

theorem C15_sids_fresh_convert (c : Cfg) (s s' : State) (ctx : Ctx) (input : Str) (sid : Nat) (cs : List Cand)
    (hinv : SidsBelow s) (h : convert c s ctx input = some (s', sid, cs)) : SidsBelow s' ∧ sid = s.nextSid := by
  have := C15_sids_fresh_history c s [.convert ctx input] hinv
  rw [show runOps c s [.convert ctx input] = s' by simp [runOps, stepOp, h]] at this
  exact ⟨this, (convert_eq_some h).2⟩

theorem session_kept_step (c : Cfg) (s : State) (op : Op) (sid : Nat) (sess : Session)
    (hop : ∀ cid now, op ≠ .confirm sid cid now) (h : s.sessions.find? (·.sid == sid) = some sess) :
    (stepOp c s op).sessions.find? (·.sid == sid) = some sess := by
  rcases stepOp_sessions c s op with ⟨_, _, hs, _⟩ | ⟨_, hs | ⟨sid', cid, now, rfl, hs⟩⟩ <;> rw [hs]
  · rw [List.find?_append, h]; rfl
  · exact h
  · have hne : sid' ≠ sid := fun e => hop cid now (e ▸ rfl)
    exact (find?_filter_ne s.sessions hne).trans h

/-- Steps of other clients and of the background tasks between the answer and the confirmation keep
the session: only a confirmation with the same id removes it. -/
theorem C15_session_survives_other_confirm (c : Cfg) (s : State) (sid sid' : Nat) (cid : Option Nat) (now : Int)
    (sess : Session) (hne : sid' ≠ sid) (h : s.sessions.find? (·.sid == sid) = some sess) :
    (confirm c s sid' cid now).sessions.find? (·.sid == sid) = some sess :=
  session_kept_step c s (.confirm sid' cid now) sid sess (fun _ _ e => hne (Op.confirm.inj e).1) h

/-- Every acknowledged registration is in the channel exactly once and is applied exactly once, in
order, by the updater (`applyEntry` pops the head). -/
theorem C15_register_once (c : Cfg) (s : State) (e : Entry) (rest : List Entry) (s' : State)
    (hp : s.pending = e :: rest) (h : applyEntry c s = some s') :
    s'.pending = rest ∧ s'.userDict = s.userDict ++ [e] := by
  simp only [applyEntry_eq, hp, Option.map_eq_some_iff] at h
  obtain ⟨_, _, rfl⟩ := h
  exact ⟨rfl, rfl⟩

/-- **An acknowledged conversion can always be confirmed, under every interleaving**: after a conversion
answered with session id `sid`, let any sequence of steps of other clients and of the background tasks
happen (conversions, confirmations of other ids, registrations, updater steps, saves — anything but a
confirmation of `sid` itself). The confirmation of candidate `i` then finds the session and changes the
learned counts exactly as if it had been processed right after the conversion, on the counts of that
moment: the confirmed word's count in the conversion's context is updated once and stale entries expire. -/
theorem C15_confirm_honoured (c : Cfg) (s s1 : State) (ctx : Ctx) (input : Str) (sid : Nat) (cs : List Cand)
    (ops : List Op) (i : Nat) (cand : Cand) (w : Str) (now : Int)
    (hb : SidsBelow s) (hconv : convert c s ctx input = some (s1, sid, cs))
    (hops : ∀ op ∈ ops, ∀ cid now, op ≠ .confirm sid cid now)
    (hi : cs[i]? = some cand) (hw : independentWord cand.chain = some w) :
    let s2 := runOps c s1 ops
    (confirm c s2 sid (some i) now).freq = expire (updateWord s2.freq ctx w now) now c.expiryMs ∧
    (confirm c s2 sid (some i) now).sessions.find? (·.sid == sid) = none := by
  have hsid := (convert_eq_some hconv).2
  obtain ⟨sess, hfind, hctx, hcs⟩ := C15_session_recorded c s s1 ctx input sid cs hconv
    fun x hx => hsid ▸ Nat.ne_of_lt (hb x hx)
  intro s2
  have hk : s2.sessions.find? (·.sid == sid) = some sess :=
    List.foldlRecOn (motive := fun s => s.sessions.find? (·.sid == sid) = some sess) ops (stepOp c) hfind
      fun s h op hop => session_kept_step c s op sid sess (hops op hop) h
  rw [confirm_eq]
  exact ⟨by simp [learned, chosen_eq_some hk (hcs ▸ hi), hw, hctx], find?_filter_sid _ sid⟩

/-- Every step other than the updater's only appends to the entry channel … -/
theorem pending_append_step (c : Cfg) (s : State) (op : Op) (hop : op ≠ .apply) :
    ∃ suffix, (stepOp c s op).pending = s.pending ++ suffix := by
  obtain ⟨_, _, _, q, _, h⟩ := stepOp_client c s hop
  exact ⟨q, by rw [h]⟩

/-- `n` updater steps (`none` = an updater panic) -/
def drain (c : Cfg) : Nat → State → Option State
  | 0, s => some s
  | n + 1, s => (applyEntry c s).bind (drain c n)

/-- … and the updater, run until the channel is empty (as many steps as there are entries), applies what was in it
exactly once and in order. -/
theorem C15_registrations_applied_once (c : Cfg) : ∀ (n : Nat) (s s' : State), s.pending.length = n →
    drain c n s = some s' → s'.pending = [] ∧ s'.userDict = s.userDict ++ s.pending
  | 0, s, s', hn, h => by
    cases h
    simp [List.eq_nil_of_length_eq_zero hn]
  | n + 1, s, s', hn, h => by
    obtain ⟨s1, ha, h⟩ := Option.bind_eq_some_iff.1 h
    cases hp : s.pending with
    | nil => rw [hp] at hn; cases hn
    | cons e rest =>
      obtain ⟨h1, h2⟩ := C15_register_once c s e rest s1 hp ha
      have := C15_registrations_applied_once c n s1 s' (by rw [h1]; simpa [hp] using hn) h
      rwa [h1, h2, List.append_assoc] at this

/-! Non-vacuity of `C15_confirm_honoured`: a concrete start state (two homophones for か), the real
configuration, a conversion that answers with session 0, and a history of other clients' steps. -/

def exState : State :=
  { base := C03.exDict, tankan := [], dict := C03.exDict, freq := [], userDict := [], sessions := [], pending := [],
    nextSid := 0, hasDir := true, saved := none }

def exOps : List Op :=
  [.convert .normal [12363, 12363], .confirm 1 (some 1) 5, .register .commonNoun [12363] [34442], .apply, .save]

example : SidsBelow exState := by intro x hx; cases hx

example : (convert C08.cfg exState .normal [12363]).map
      (fun r => (r.2.1, (r.2.2[0]?).bind fun cand => independentWord cand.chain)) = some (0, some [34442]) ∧
    (∀ op ∈ exOps, ∀ cid now, op ≠ Op.confirm 0 cid now) := by
  refine ⟨by decide +kernel, ?_⟩
  intro op hop cid now
  simp only [exOps, List.mem_cons, List.not_mem_nil, or_false] at hop
  rcases hop with rfl | rfl | rfl | rfl | rfl <;> simp

open Chokan.Conc Chokan.Gen.Server in
/-- **The session is stored before the answer leaves.** On every control-flow path of every converting handler
the session is added to the store — under the store's lock — before the response is built; a handler that has
answered has therefore executed `add_session` itself (nothing is handed to another thread). -/
theorem C15_conc_session_before_answer :
    ((convertingPaths handlerPaths).all fun p =>
      occursBefore (.act .addSession) .respond p && p.contains .respond && actUnder .addSession .store p &&
      occursBefore (.act .compute) (.act .addSession) p) = true ∧
    2 ≤ (convertingPaths handlerPaths).length := by decide +kernel

open Chokan.Conc Chokan.Gen.Server in
/-- **A confirmation is one critical section on the store and on the counts.** On every path of `UpdateFrequency`
the session is popped under the store lock, the count is updated under the lock of the learned data *while the
store lock is still held* (two confirmations can not interleave their read-modify-write), a learned compound is
queued before the answer, and the answer comes last. -/
theorem C15_conc_confirm_sections :
    ((pathsOf "UpdateFrequency" handlerPaths).all fun p =>
      occursBefore (.act .popSession) .respond p && actUnder .popSession .store p &&
      actUnder .updFreq .userPref p && actUnder .updFreq .store p &&
      actUnder .updCompound .userPref p &&
      (!(p.contains (.act .updCompound)) || occursBefore (.act .updCompound) (.send .entry) p) &&
      (!(p.contains (.send .entry)) || occursBefore (.send .entry) .respond p)) = true ∧
    (pathsOf "UpdateFrequency" handlerPaths).any (·.contains (.act .updFreq)) = true := by decide +kernel

open Chokan.Conc Chokan.Gen.Server in
/-- **An acknowledged registration is in the queue, and the queue is drained one entry at a time.** `RegisterWord`
sends the entry on the (unbounded) channel before it answers; the updater takes one entry per iteration, records
it in the user dictionary under that lock and then merges it under the dictionary lock — once each. -/
theorem C15_conc_registration_queued :
    ((pathsOf "RegisterWord" handlerPaths).all fun p => occursBefore (.send .entry) .respond p) = true ∧
    (pathsOf "RegisterWord" handlerPaths) ≠ [] ∧ chanUnbounded .entry = true ∧
    (taskMain.filter (·.contains (.recv .entry))).length = 1 ∧
    ((taskMain.filter (·.contains (.recv .entry))).all fun p =>
      (p.filter (· == .recv .entry)).length = 1 && (p.filter (· == .act .addEntry)).length = 1 &&
      occursBefore (.recv .entry) (.act .addEntry) p && occursBefore (.act .addEntry) (.act .mapInsert) p &&
      actUnder .addEntry .userPref p) = true := by decide +kernel


open Chokan.Conc Chokan.Gen.Server in
theorem converting_ahead : ∀ p ∈ convertingPaths handlerPaths, Ahead p := by
  intro p hp
  have := List.all_eq_true.1 C15_conc_session_before_answer.1 p hp
  simp only [Bool.and_eq_true, List.contains_eq_mem, decide_eq_true_eq] at this
  obtain ⟨⟨⟨hbefore, hresp⟩, _⟩, _⟩ := this
  exact ⟨hbefore, hresp⟩

open Chokan.Conc Chokan.Gen.Server in
/-- **Under every interleaving, a confirmation that comes after the answer finds the session.**  Any number of
requests of any shape run concurrently with the background loops (`reqs`: event lists, each confirmation aimed at
the conversion thread whose answer it confirms); thread `c` runs a path of a converting handler *as extracted from
the code*.  In the state reached by any schedule, if `c` has sent its answer, `u` is a confirmation of that answer
about to execute `pop_session`, and no confirmation of the same answer has popped before, then the pop finds the
session — the very id `c` stored — and takes it out of the store.  (With the session handed to another thread, as
before fix 519c3f2, `C15_conc_session_before_answer` fails and with it this theorem.) -/
theorem C15_conc_confirmation_finds_session (reqs : List (List Ev × Option Nat)) (tasks : List (List (List Ev)))
    (capOf : Chan → Nat) (sched : List (Nat × Nat)) (c u k : Nat) (lu : Local)
    (hc : ∃ r, reqs[c]? = some r ∧ r.1 ∈ convertingPaths handlerPaths)
    (hans : answered (drun (dinit chanUnbounded capOf reqs tasks) sched).st c = true)
    (hu : (drun (dinit chanUnbounded capOf reqs tasks) sched).locals[u]? = some lu) (htu : lu.target = some c)
    (hhead : headEv (drun (dinit chanUnbounded capOf reqs tasks) sched).st u = some (.act .popSession))
    (hfirst : ∀ (u' : Nat) (lu' : Local), (drun (dinit chanUnbounded capOf reqs tasks) sched).locals[u']? = some lu' →
      lu'.target = some c → lu'.found = none) :
    ∃ lu' sid, (dstep (drun (dinit chanUnbounded capOf reqs tasks) sched) (u, k)).locals[u]? = some lu' ∧
      lu'.found = some true ∧
      (drun (dinit chanUnbounded capOf reqs tasks) sched).locals[c]?.bind (·.sid) = some sid ∧
      sid ∈ (drun (dinit chanUnbounded capOf reqs tasks) sched).sess ∧
      sid ∉ (dstep (drun (dinit chanUnbounded capOf reqs tasks) sched) (u, k)).sess :=
  pop_finds (SInv_drun sched (SInv_dinit converting_ahead)) c u k lu hc hans hu htu
    hhead hfirst

open Chokan.Conc Chokan.Gen.Server in
/-- non-vacuity: a conversion runs to its answer, then its confirmation takes the store lock and is about to pop —
the hypotheses of the theorem hold and the pop finds session 0 -/
example :
    let reqs : List (List Chokan.Gen.Server.Ev × Option Nat) :=
      ((Chokan.Conc.convertingPaths handlerPaths).take 1).map (·, none) ++
      ((Chokan.Conc.pathsOf "UpdateFrequency" handlerPaths).drop 2).map (·, some 0)
    let d := Chokan.Conc.drun (Chokan.Conc.dinit chanUnbounded (fun _ => 0) reqs taskPaths)
      [(0, 0), (0, 0), (0, 0), (0, 0), (0, 0), (0, 0), (0, 0), (0, 0), (0, 0), (1, 0)]
    reqs.length = 2 ∧ Chokan.Conc.answered d.st 0 = true ∧
    Chokan.Conc.headEv d.st 1 = some (.act .popSession) ∧ d.sess = [0] ∧
    (Chokan.Conc.dstep d (1, 0)).sess = [] ∧
    ((Chokan.Conc.dstep d (1, 0)).locals.map (·.found)) = [none, some true, none, none, none] := by decide +kernel


open Chokan.Conc Chokan.Fine Chokan.Gen.Server in
/-- **The same with the data** (Model/Fine: the interleaving model in which every event has its effect on the server
state of Model/Server).  Start from any server state with well-formed session ids, any requests, any schedule.  If the
conversion thread `c` (a path of a converting handler, as extracted) has answered, it has stored a session — its fresh id,
its context, the candidates it computed under the locks — and a confirmation thread that names this id and is about to
pop (no confirmation of the id having popped before) gets, as its `candidate`, exactly the candidate its request's string
names among those candidates, with the conversion's context; the session leaves the store.  When the thread then reaches
`update_frequency`, the count of that candidate's independent word in that context rises by one (`fine_updFreq`). -/
theorem C15_fine_confirmation_gets_answered_candidate (cfg : Chokan.Server.Cfg) (reqs : List (List Ev × Req))
    (tasks : List (List (List Ev))) (capOf : Chan → Nat) (s0 : Chokan.Server.State)
    (hs0 : ∀ x ∈ s0.sessions, x.sid < s0.nextSid) (sched : List (Nat × Nat)) (c u k : Nat)
    (hc : ∃ r, reqs[c]? = some r ∧ r.1 ∈ convertingPaths handlerPaths ∧ ∃ ctx input, r.2 = Req.conv ctx input)
    (hans : answered (frun cfg (finit chanUnbounded capOf reqs tasks s0) sched).st c = true) :
    ∃ (lc : Fine.Local) (sess : Chokan.Server.Session),
      (frun cfg (finit chanUnbounded capOf reqs tasks s0) sched).locals[c]? = some lc ∧ lc.stored = some sess ∧
      ∀ (lu : Fine.Local) (id : String) (now : Int),
        (frun cfg (finit chanUnbounded capOf reqs tasks s0) sched).locals[u]? = some lu → lu.req = Req.confirm sess.sid id now →
        headEv (frun cfg (finit chanUnbounded capOf reqs tasks s0) sched).st u = some (.act .popSession) →
        (∀ (u' : Nat) (lu' : Fine.Local), (frun cfg (finit chanUnbounded capOf reqs tasks s0) sched).locals[u']? = some lu' →
          isConfirmOf lu' sess.sid → lu'.popped = false) →
        ∃ lu', (fstep cfg (frun cfg (finit chanUnbounded capOf reqs tasks s0) sched) (u, k)).locals[u]? = some lu' ∧
          lu'.cand = (foundCand sess id).map (fun cd => (sess.ctx, cd)) ∧ lu'.popped = true ∧
          (fstep cfg (frun cfg (finit chanUnbounded capOf reqs tasks s0) sched) (u, k)).data.sessions.find? (·.sid == sess.sid) = none :=
  fine_pop_finds cfg (FInv_frun cfg sched (FInv_finit converting_ahead hs0)) c u k hc hans


open Chokan.Conc Chokan.Fine Chokan.Gen.Server in
/-- non-vacuity, with data (configuration and start state of C08's examples): a conversion of か answers and stores
session 0; its confirmation with the string "0" pops it and gets a candidate, and running on to `update_frequency` learns
exactly one count -/
example :
    let reqs : List (List Chokan.Gen.Server.Ev × Req) :=
      ((convertingPaths handlerPaths).take 1).map (·, Req.conv .normal [12363]) ++
      ((handlerMain.filter (·.1 == "UpdateFrequency")).map (·.2)).map (·, Req.confirm 0 "0" 7)
    let d := frun C08.cfg (finit chanUnbounded (fun _ => 0) reqs taskPaths C08.exState)
      [(0, 0), (0, 0), (0, 0), (0, 0), (0, 0), (0, 0), (0, 0), (0, 0), (0, 0), (1, 0)]
    reqs.length = 2 ∧ answered d.st 0 = true ∧ headEv d.st 1 = some (.act .popSession) ∧
    d.data.sessions.map (·.sid) = [0] ∧ (d.locals.map fun l => l.stored.map (·.cands.length)) = [some 1, none, none, none, none] ∧
    (fstep C08.cfg d (1, 0)).data.sessions = [] ∧
    ((fstep C08.cfg d (1, 0)).locals.map fun l => l.cand.isSome) = [false, true, false, false, false] ∧
    (frun C08.cfg d [(1, 0), (1, 0), (1, 0)]).data.freq.map (fun e => (e.word, e.count)) = [([34442], 1)] := by
  decide +kernel


open Chokan.Conc Chokan.Fine Chokan.Gen.Server in
/-- **No acknowledged registration is lost or applied twice by the queue** (interleaving model with data): for every
start state, every set of threads and every schedule, the entries queued at the start followed by every entry sent — by
registrations (`RegisterWord` sends before it answers, `C15_conc_registration_queued`) and by compound confirmations — in
the order they were sent, are exactly the entries the updater has taken, in the order it took them, followed by the
entries still queued.  (Each taken entry is then applied by one iteration of the updater, which alone is `applyEntry`:
`C14_fine_others_are_atomic`.) -/
theorem C15_fine_queue_conserved (cfg : Chokan.Server.Cfg) (d : FSt) (sched : List (Nat × Nat)) :
    d.data.pending ++ sentLog cfg d sched = takenLog cfg d sched ++ (frun cfg d sched).data.pending := by
  induction sched generalizing d with
  | nil => simp [sentLog, takenLog, frun]
  | cons ik t ih =>
    rw [sentLog, takenLog, ← List.append_assoc, queue_step, List.append_assoc, ih, List.append_assoc]
    rfl

end Chokan.Props.C15
