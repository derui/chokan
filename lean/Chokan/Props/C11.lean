/-
C11 — the dictionary builder loses no accepted word and invents none.

Model: `buildMap` of Chokan.Model.Server (read with the text format, conjugate, stable sort by
reading, fold into map + trie key set).  postcard/serde are the identity on these values (validated by
loading the real image in the check); that the real trie is the key set is C04.
-/
import Chokan.Model.Server
import Chokan.Lemmas.Kkc
import Chokan.Lemmas.Builder

namespace Chokan.Props.C11
open Chokan.Server Chokan.Kkc Chokan.Dic

/-- One step of the fold that fills map and trie key set. -/
def step (alpha : List Nat) (acc : List (Str × List Word) × List Str) (w : Word) : List (Str × List Word) × List Str :=
  (addToMap acc.1 w.reading w,
   if inAlpha alpha w.reading && !(acc.2.any (Kkc.beqStr w.reading)) then acc.2 ++ [w.reading] else acc.2)

/-- The fold of `read_and_make_dictionary` over the (sorted) word list. -/
def fill (alpha : List Nat) (ws : List Word) : List (Str × List Word) × List Str :=
  ws.foldl (step alpha) ([], [])

theorem buildMap_eq_fill (c : Cfg) (content : Str) :
    buildMap c content =
      (allWords c (Chokan.DicText.readAll c.kanaClass c.alts c.kata content)).map fun ws =>
        fill c.alpha (sortWords ws.reverse) := rfl

/-- What the fold files under `key`: what was there, then the words read as `key`, in order.  (`step` is definitionally the
updater's `addStdWord` on the two standard fields: the builder is repeated registration.) -/
theorem findMap_foldl_step (alpha : List Nat) (key : Str) :
    ∀ (ws : List Word) (acc : List (Str × List Word) × List Str),
      (findMap key (ws.foldl (step alpha) acc).1).getD [] =
        (findMap key acc.1).getD [] ++ ws.filter fun w => key = w.reading
  | [], acc => by rw [List.foldl_nil, List.filter_nil, List.append_nil]
  | w :: t, acc => by
    rw [List.foldl_cons, findMap_foldl_step alpha key t, step, getD_findMap_addToMap, List.append_assoc, List.filter_cons]
    by_cases h : key = w.reading <;> simp [h]

theorem any_foldl_step (alpha : List Nat) (k : Str) :
    ∀ (ws : List Word) (acc : List (Str × List Word) × List Str),
      (ws.foldl (step alpha) acc).2.any (Kkc.beqStr k) =
        (acc.2.any (Kkc.beqStr k) || ws.any fun w => inAlpha alpha w.reading && Kkc.beqStr k w.reading)
  | [], acc => by rw [List.foldl_nil, List.any_nil, Bool.or_false]
  | w :: t, acc => by
    rw [List.foldl_cons, any_foldl_step alpha k t, step, any_trieInsert, List.any_cons, Bool.or_assoc]

theorem findMap_fill (alpha : List Nat) (ws : List Word) (key : Str) :
    (findMap key (fill alpha ws).1).getD [] = ws.filter fun w => key = w.reading :=
  findMap_foldl_step alpha key ws ([], [])

/-- Complete: every word that goes into the fold is stored under its reading. -/
theorem C11_complete (alpha : List Nat) (ws : List Word) (w : Word) (hw : w ∈ ws) :
    ∃ l, findMap w.reading (fill alpha ws).1 = some l ∧ w ∈ l :=
  (mem_getD_nil _ _).1 (findMap_fill alpha ws w.reading ▸ List.mem_filter.2 ⟨hw, decide_eq_true rfl⟩)

/-- Sound: every stored word is one of the words that went into the fold, stored under its own reading. -/
theorem C11_sound (alpha : List Nat) (ws : List Word) (key : Str) (l : List Word) (x : Word)
    (h : findMap key (fill alpha ws).1 = some l) (hx : x ∈ l) : x ∈ ws ∧ key = x.reading := by
  have := (mem_getD_nil _ _).2 ⟨l, h, hx⟩
  rwa [findMap_fill, List.mem_filter, decide_eq_true_eq] at this

/-- The trie receives every reading spelled in the alphabet (others are logged and skipped). -/
theorem C11_trie_keys (alpha : List Nat) (ws : List Word) (w : Word) (hw : w ∈ ws)
    (ha : inAlpha alpha w.reading = true) : (fill alpha ws).2.any (Kkc.beqStr w.reading) = true :=
  (any_foldl_step alpha w.reading ws ([], [])).trans
    (List.any_eq_true.2 ⟨w, hw, by rw [ha, (Kkc.beqStr_iff _ _).2 rfl]; rfl⟩)

/-- **The built dictionary is exactly the conjugated source** (model of `read_and_make_dictionary`):
every conjugated word of every entry read from the source is stored under its reading, nothing else
is stored, and every reading spelled in the alphabet is a key of the trie. -/
theorem C11_source (c : Cfg) (content : Str) (ws : List Word) (m : List (Str × List Word)) (keys : List Str)
    (hws : allWords c (Chokan.DicText.readAll c.kanaClass c.alts c.kata content) = some ws)
    (hb : buildMap c content = some (m, keys)) :
    (∀ w ∈ ws, ∃ l, findMap w.reading m = some l ∧ w ∈ l) ∧
    (∀ key l x, findMap key m = some l → x ∈ l → x ∈ ws ∧ key = x.reading) ∧
    (∀ w ∈ ws, inAlpha c.alpha w.reading = true → keys.any (Kkc.beqStr w.reading) = true) := by
  rw [buildMap_eq_fill, hws] at hb
  obtain ⟨rfl, rfl⟩ := Prod.ext_iff.1 (Option.some.inj hb)
  have hmem (w : Word) : w ∈ sortWords ws.reverse ↔ w ∈ ws :=
    ((sortWords_perm _).trans ws.reverse_perm).mem_iff
  exact ⟨fun w hw => C11_complete c.alpha _ w ((hmem w).2 hw),
    fun key l x hl hx => (C11_sound c.alpha _ key l x hl hx).imp_left (hmem x).1,
    fun w hw ha => C11_trie_keys c.alpha _ w ((hmem w).2 hw) ha⟩

/-! The tankan (single-kanji) dictionary is built by the same pipeline; only the map is used. -/

/-- `TankanDictionary::get_candidates`: the written forms stored under exactly this reading, in stored order -/
def tankanLookup (m : List (Str × List Word)) (input : Str) : List Str := ((findMap input m).getD []).map (·.word)

theorem tankanLookup_eq (s : State) (input : Str) : tankanCandidates s input = tankanLookup s.tankan input := rfl

/-- **Tankan look-up loses nothing and invents nothing**: for the map the builder makes from a source, a text is
offered for a reading iff some conjugated word of some source entry has exactly that reading and that written form. -/
theorem C11_tankan_exact (c : Cfg) (content : Str) (ws : List Word) (m : List (Str × List Word)) (keys : List Str)
    (hws : allWords c (Chokan.DicText.readAll c.kanaClass c.alts c.kata content) = some ws)
    (hb : buildMap c content = some (m, keys)) (input text : Str) :
    text ∈ tankanLookup m input ↔ ∃ w ∈ ws, w.reading = input ∧ w.word = text := by
  obtain ⟨hc, hs, _⟩ := C11_source c content ws m keys hws hb
  simp only [tankanLookup, List.mem_map, mem_getD_nil]
  constructor
  · rintro ⟨w, ⟨l, hl, hw⟩, rfl⟩
    obtain ⟨hin, hk⟩ := hs input l w hl hw
    exact ⟨w, hin, hk.symm, rfl⟩
  · rintro ⟨w, hw, rfl, rfl⟩
    exact ⟨w, hc w hw, rfl⟩

/-- … and a reading no source word has yields no candidate at all (the empty list, not an error). -/
theorem C11_tankan_unknown (c : Cfg) (content : Str) (ws : List Word) (m : List (Str × List Word)) (keys : List Str)
    (hws : allWords c (Chokan.DicText.readAll c.kanaClass c.alts c.kata content) = some ws)
    (hb : buildMap c content = some (m, keys)) (input : Str) (hno : ∀ w ∈ ws, w.reading ≠ input) :
    tankanLookup m input = [] :=
  List.eq_nil_iff_forall_not_mem.2 fun t ht =>
    have ⟨w, hw, hr, _⟩ := (C11_tankan_exact c content ws m keys hws hb input t).1 ht
    hno w hw hr

end Chokan.Props.C11
