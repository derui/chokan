/-
C13 — the server serves under every runtime thread configuration.

Model: Chokan.Model.Runtime (worker occupancy). Data: Chokan.Gen.Server (how each endless background
loop of main.rs is started), regenerated on every run.  tokio's real scheduler is not modelled:
the result is tied to the binary by starting it with TOKIO_WORKER_THREADS = 1..16 (partial).
-/
import Chokan.Model.Runtime

namespace Chokan.Props.C13
open Chokan.Runtime Chokan.Gen.Server

/-- The general law the configuration is judged by: with `k` never-yielding tasks on the async pool,
exactly the runtimes with more than `k` workers can serve. -/
theorem C13_occupancy (workers k : Nat) : serves workers k = true ↔ k < workers := by
  unfold serves lostWorkers
  rw [decide_eq_true_iff]
  omega

/-- No background loop that never yields is started on an async worker … -/
theorem C13_no_worker_occupied : workersOccupied = 0 := by decide

/-- … hence for every worker count from one upward a worker remains for the accept loop and the
request handlers. -/
theorem C13 (workers : Nat) (h : 1 ≤ workers) : serves workers workersOccupied = true := by
  rw [C13_occupancy, C13_no_worker_occupied]; omega

/-- Each background duty (periodic timer, saver, dictionary updater) gets a thread of its own
(blocking pool or OS thread), in every configuration. -/
theorem C13_duties : duties.length ≥ 3 ∧ ∀ d ∈ duties, d ≠ Spawn.asyncWorker := by decide

/-- the pool is smallest with one worker: `poolOk` is exactly "enough threads for every worker count from one upward" -/
theorem poolOk_spec (p : Pool) (n : Nat) : poolOk p n = true ↔ ∀ w, 1 ≤ w → n ≤ poolSize p w := by
  unfold poolOk
  rw [decide_eq_true_iff]
  constructor
  · intro h w hw
    refine Nat.le_trans h ?_
    cases p with
    | default => exact Nat.le_refl _
    | const c => exact Nat.le_refl _
    | perWorker k => exact Nat.mul_le_mul_right k hw
    | workersPlus k => exact Nat.add_le_add_right hw k
  · exact fun h => h 1 (Nat.le_refl 1)

/-- **Every never-ending blocking duty has a thread of the blocking pool to itself, for every worker count from one
upward** — with the runtime as `main.rs` builds it (`blockingPoolCfg`, regenerated: tokio's default pool, or the
`max_blocking_threads` expression of a hand-built runtime). A pool sized from the worker count (`workers * k`) that is too
small with one worker fails here. -/
theorem C13_blocking_pool (w : Nat) (hw : 1 ≤ w) : blockingDuties duties ≤ poolSize blockingPoolCfg w :=
  (poolOk_spec blockingPoolCfg (blockingDuties duties)).1 (by decide) w hw

end Chokan.Props.C13
