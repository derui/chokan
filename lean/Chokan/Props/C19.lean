/-
C19 — Client romaji engine: every table spelling is typeable, conversion is total.

Model: `Chokan.Model.Romaji` (hand-written from chokan.el, tied by the correspondence run against
`tools/elisp_eval.py` interpreting the working-tree chokan.el).  Data: `Chokan.Gen.Romaji` (regenerated
on every run).
-/
import Chokan.Lemmas.RomajiIdem
import Chokan.Gen.Romaji

namespace Chokan.Props.C19
open Chokan.Romaji Chokan.Gen.Romaji

/-- The client's conversion with the client's own tables. -/
def clientConv (s : Str) : Option Str :=
  conv romanTable consonants (dotimesBound (maxKey romanTable)) s

theorem keys_nonempty : noEmptyKey romanTable = true := by decide +kernel

/-- No spelling is a prefix of another one, so the shortest-first `cl-dotimes` search cannot stop early. -/
theorem keys_prefixFree : prefixFree romanTable = true := by decide +kernel

theorem keys_no_sokuon : romanTable.all (fun kv => !sokuonP consonants kv.1) = true := by decide +kernel

theorem bound_covers_keys : maxKey romanTable < dotimesBound (maxKey romanTable) := by decide +kernel

theorem ascii_split :
    (romanTable.all fun kv => kv.1.all (· < 128) && !kv.2.isEmpty && kv.2.all (128 ≤ ·)) = true ∧
    consonants.all (· < 128) = true := by decide +kernel

/-- Every spelling of the romaji table types exactly its table kana (all rows). -/
theorem C19_table : ∀ kv ∈ romanTable, clientConv kv.1 = some kv.2 := by
  intro kv h
  have hs : sokuonP consonants (kv.1 ++ []) = false := by
    simpa using List.all_eq_true.1 keys_no_sokuon kv h
  have := conv_key_append keys_nonempty keys_prefixFree bound_covers_keys h [] hs
  rw [List.append_nil, conv_nil, Option.map_some, List.append_nil] at this
  exact this

/-- Conversion of any key sequence terminates without a Lisp error (fuel |s|+1 suffices). -/
theorem C19_total (s : Str) : ∃ out, clientConv s = some out :=
  conv_total keys_nonempty s

/-- A doubled consonant becomes っ followed by the conversion of the remaining consonant. -/
theorem C19_sokuon (c : Nat) (hc : c ∈ consonants) (rest : Str) :
    clientConv (c :: c :: rest) = (clientConv (c :: rest)).map (0x3063 :: ·) :=
  conv_sokuon keys_nonempty c hc rest

/-- Kana and unmapped characters (not used by any spelling, not a consonant) pass through
unchanged and in order, wherever they stand. -/
theorem C19_passthrough (xs ys : Str) (c : Nat)
    (hk : keyChar romanTable c = false) (hc : memNat c consonants = false) :
    clientConv (xs ++ c :: ys) =
      (clientConv xs).bind fun a => (clientConv ys).map fun b => a ++ c :: b :=
  conv_passthrough keys_nonempty xs ys c hk hc

/-- A string of unmapped characters only (e.g. kana) is a fixed point. -/
theorem C19_fixed_unmapped (s : Str)
    (h : ∀ c ∈ s, keyChar romanTable c = false ∧ memNat c consonants = false) :
    clientConv s = some s :=
  conv_unmapped keys_nonempty s h

def C19_idempotent_statement : Prop :=
  ∀ s out, clientConv s = some out → clientConv out = some out

/-- **Idempotence on its own output**, for every key sequence: the output consists of table values and
っ (no spelling uses them) and of characters passed through one at a time; a run of passed-through
characters is a dead end at each of its positions, so a second pass changes nothing. -/
theorem C19_idempotent : C19_idempotent_statement :=
  conv_idempotent_of_split 128 keys_nonempty ascii_split.1 ascii_split.2 (by decide)

/-- Idempotence on the engine's output for every table row: the kana a spelling produces
is left unchanged by a second pass. (General idempotence: see `C19_idempotent_statement`.) -/
theorem C19_idempotent_rows : ∀ kv ∈ romanTable, clientConv kv.2 = some kv.2 :=
  fun kv hkv => C19_idempotent _ _ (C19_table kv hkv)

/-- Hiragana→katakana: every table kana maps to its (first) table katakana. -/
theorem C19_kata_table : ∀ kv ∈ katakanaTable, kv.1.length = 1 →
    hiraToKata katakanaTable kv.1 = (assoc kv.1 katakanaTable).getD kv.1 ∧
    (assoc kv.1 katakanaTable).isSome := by
  intro kv hkv hl
  obtain ⟨c, hc⟩ := List.length_eq_one_iff.1 hl
  exact ⟨by rw [hc, hiraToKata_singleton], Option.isSome_iff_ne_none.2 (assoc_ne_none_of_mem hkv)⟩

/-- The first occurrence of each key is the value returned (`assoc` semantics). -/
theorem C19_kata_first : ∀ kv ∈ firstOccurrences katakanaTable, kv.1.length = 1 →
    hiraToKata katakanaTable kv.1 = kv.2 := by
  intro kv hkv hl
  obtain ⟨c, hc⟩ := List.length_eq_one_iff.1 hl
  rw [hc, hiraToKata_singleton, ← hc, (assoc_of_mem_firstOccurrencesAux _ _ _ _ hkv).1]; rfl

/-- **"Maps every table kana"**: every character of every kana the romaji table can produce is a key of
the katakana table (so katakana mode never leaves hiragana behind) … -/
theorem C19_kata_covers_typed :
    romanTable.all (fun kv => kv.2.all fun c => (assoc [c] katakanaTable).isSome) = true := by
  decide +kernel

/-- … hence the katakana of a typed kana is, character by character, its table katakana. -/
theorem C19_kata_typed (kv : Str × Str) (h : kv ∈ romanTable) :
    hiraToKata katakanaTable kv.2 = kv.2.flatMap fun c => (assoc [c] katakanaTable).getD [c] :=
  hiraToKata_eq_flatMap _ _

/-- Every character that is not a table key is left untouched … -/
theorem C19_kata_other (c : Nat) (h : assoc [c] katakanaTable = none) :
    hiraToKata katakanaTable [c] = [c] := by
  rw [hiraToKata_singleton, h]; rfl

/-- … and conversion is per character. -/
theorem C19_kata_append (a b : Str) :
    hiraToKata katakanaTable (a ++ b) = hiraToKata katakanaTable a ++ hiraToKata katakanaTable b :=
  hiraToKata_append _ a b

example : clientConv [107, 97, 116, 116, 97, 114, 97] = some [12363, 12387, 12383, 12425] := by
  decide +kernel  -- "kattara" ↦ "かったら"
example : clientConv [120, 116, 115, 117] = some [12387] := by decide +kernel  -- "xtsu" ↦ "っ"

end Chokan.Props.C19
