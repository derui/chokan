/-
C20 — confirming an affixed candidate teaches the compound as a user word.

Model: `withAffix` (Candidate::to_string_with_affix on the chain as the search returns it, i.e.
starting with the sentence-begin node) and `confirm` / `applyEntry` of Chokan.Model.Server.
-/
import Chokan.Model.Server
import Chokan.Props.C07
import Chokan.Lemmas.ServerStep
import Chokan.Lemmas.Speech

namespace Chokan.Props.C20
open Chokan.Server Chokan.Kkc Chokan.Dic

def wordNode (e i : Nat) (w : Word) (f : Score) : Node := .word e i w f

theorem filter_word (e i : Nat) (w : Word) (f : Score) :
    Option.filter isWordNode (some (Node.word e i w f)) = some (Node.word e i w f) := by
  simp [Option.filter, isWordNode]

/-- prefix + independent word (followed by the sentence end or the unconverted tail) -/
theorem C20_prefix_word (e1 i1 e2 i2 : Nat) (p w : Word) (f1 f2 : Score) (rest : List Node)
    (hp : p.speech.isPrefix = true) (hw : w.speech.isAncillary = false)
    (hrest : (rest.head?.filter isWordNode) = none) :
    withAffix (.bos :: wordNode e1 i1 p f1 :: wordNode e2 i2 w f2 :: rest) =
      some (p.word ++ w.word, p.reading ++ w.reading) := by
  simp [withAffix, wordNode, filter_word, asPrefix, asSuffix, asIndependent, isWordNode, hp, hw,
    Speech.isAncillary_of_isPrefix hp, Speech.isSuffix_eq_false hw, hrest]

/-- independent word + suffix -/
theorem C20_word_suffix (e1 i1 e2 i2 : Nat) (w s : Word) (f1 f2 : Score) (rest : List Node)
    (hw : w.speech.isAncillary = false) (hs : s.speech.isSuffix = true)
    (hrest : (rest.head?.filter isWordNode) = none) :
    withAffix (.bos :: wordNode e1 i1 w f1 :: wordNode e2 i2 s f2 :: rest) =
      some (w.word ++ s.word, w.reading ++ s.reading) := by
  simp [withAffix, wordNode, filter_word, asPrefix, asSuffix, asIndependent, isWordNode, hw, hs,
    Speech.isPrefix_eq_false hw, Speech.isAncillary_of_isSuffix hs, hrest]

/-- prefix + independent word + suffix -/
theorem C20_prefix_word_suffix (e1 i1 e2 i2 e3 i3 : Nat) (p w s : Word) (f1 f2 f3 : Score) (rest : List Node)
    (hp : p.speech.isPrefix = true) (hw : w.speech.isAncillary = false) (hs : s.speech.isSuffix = true) :
    withAffix (.bos :: wordNode e1 i1 p f1 :: wordNode e2 i2 w f2 :: wordNode e3 i3 s f3 :: rest) =
      some (p.word ++ w.word ++ s.word, p.reading ++ w.reading ++ s.reading) := by
  simp [withAffix, wordNode, filter_word, asPrefix, asSuffix, asIndependent, isWordNode, hp, hw, hs]

/-- A candidate whose first converted word is an independent word followed by no word learns nothing. -/
theorem C20_none_single (e1 i1 : Nat) (w : Word) (f1 : Score) (rest : List Node)
    (hrest : (rest.head?.filter isWordNode) = none) :
    withAffix (.bos :: wordNode e1 i1 w f1 :: rest) = none := by
  simp [withAffix, wordNode, isWordNode, hrest]

/-- Confirming such a candidate queues the compound as a common noun for the updater (which records it in the user
dictionary when it applies it — once, since fix c5e9959). -/
theorem C20_confirm_queues (c : Cfg) (s : State) (sid : Nat) (cid : Nat) (now : Int) (sess : Session) (cand : Cand)
    (word reading : Str)
    (h : s.sessions.find? (·.sid == sid) = some sess) (hc : sess.cands[cid]? = some cand)
    (ha : withAffix cand.chain = some (word, reading)) :
    (confirm c s sid (some cid) now).pending = s.pending ++ [⟨word, reading, .noun .common⟩] := by
  simp [confirm_eq, queued, chosen_eq_some h hc, ha]

/-- The updater applies it without panic (a noun conjugates to itself): the user dictionary gains the entry and the running
dictionary the compound as one word (`addStdWord`; found under its reading when that is spelled in the alphabet:
`C07_added_word_found`). -/
theorem C20_applied (c : Cfg) (s : State) (word reading : Str) (rest : List Entry)
    (hp : s.pending = ⟨word, reading, .noun .common⟩ :: rest) :
    ∃ s', applyEntry c s = some s' ∧ s'.pending = rest ∧
      s'.userDict = s.userDict ++ [⟨word, reading, .noun .common⟩] ∧
      s'.dict = addStdWord c.alpha s.dict ⟨word, reading, .noun .common⟩ := by
  simp [applyEntry_eq, hp, entryToWords, toForms]

/-- **Once applied, the compound converts as a single word**: after the updater has applied the queued
compound (a common noun whose non-empty reading is spelled in the trie alphabet), the compound's
reading — and every input that begins with it — gets the compound's written form as a candidate (then
followed by the rest of the input), in every context, unless the list is cut at `n`. -/
theorem C20_compound_converts (c : Cfg) (s : State) (word reading : Str) (rest : List Entry) (tail : Str)
    (ctx : Ctx) (f : Freq) (n : Nat) (hn : 1 ≤ n)
    (hp : s.pending = ⟨word, reading, .noun .common⟩ :: rest) (hd : Dict.WF s.dict)
    (hne : reading ≠ []) (ha : inAlpha c.alpha reading = true) :
    ∃ s', applyEntry c s = some s' ∧ ∃ fuel0 R, ∀ fuel, fuel0 ≤ fuel →
      getCandidates genTables (reading ++ tail) s'.dict ctx f n fuel = some R ∧
      (word ++ tail ∈ R.map Cand.text ∨ R.length = n) := by
  obtain ⟨s', hs', _, _, hdict⟩ := C20_applied c s word reading rest hp
  refine ⟨s', hs', ?_⟩
  rw [hdict]
  exact C07.C07_registered_word_offered c.alpha s.dict ⟨word, reading, .noun .common⟩ tail ctx f n hn hd hne ha rfl

/-- **What is learned about written forms does not decide whether a compound is learned.** Whatever the learned counts are
— in particular when the compound's written form already has a count from an earlier confirmation of a homograph — the
confirmation of an affixed candidate adds the same compound to the user dictionary and to the updater's queue. -/
theorem C20_compound_regardless_of_counts (c : Cfg) (s : State) (f' : List FreqEntry) (sid : Nat) (cid : Option Nat) (now : Int) :
    (confirm c { s with freq := f' } sid cid now).userDict = (confirm c s sid cid now).userDict ∧
    (confirm c { s with freq := f' } sid cid now).pending = (confirm c s sid cid now).pending := by
  -- what a confirmation queues (`queued`) is not a function of the counts
  simp only [confirm_eq]
  exact ⟨trivial, rfl⟩

end Chokan.Props.C20
