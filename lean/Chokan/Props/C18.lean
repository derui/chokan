/-
C18 — SKK import is total and everything it emits is a valid, faithful dictionary line.

Models: Chokan.Model.Skk (skk-dic-parser and the noun / jinmei / tankan converters) and
Chokan.Model.SkkNotes (skk-notes-converter: the notes PEG grammar and `Note::to_entries`).  Both are
hand translations; `./check C18` runs them against the implementation on generated, mutated and
directed lines (ops skk / skknoun / skkproper / skktankan / skknote).
-/
import Chokan.Lemmas.Skk
import Chokan.Lemmas.SkkNotesConv

namespace Chokan.Props.C18
open Chokan.Skk Chokan.Dic Chokan.DicText Chokan.SkkNotes
open Chokan.Props.C10 (storableSpeeches)

theorem parseSkk_some (s : Str) (e : SkkEntry) (h : parseSkk s = some e) :
    ∃ r4, e.reading = (spanClass skkKana s).1 ∧ e.reading ≠ [] ∧
      e.okuri = (if (spanClass isAlpha (spanClass skkKana s).2).1.isEmpty then none
                 else some (spanClass isAlpha (spanClass skkKana s).2).1) ∧
      e.words = (parseKanjis (r4.length + 1) r4).1 ∧ e.words ≠ [] := by
  unfold parseSkk at h
  simp only at h
  split at h
  · cases h
  · next hne =>
    split at h
    · next r4 _ =>
      split at h
      · cases h
      · next hk =>
        cases h
        simp only [Bool.or_eq_true, not_or, List.isEmpty_iff] at hne hk
        exact ⟨r4, rfl, hne.1, rfl, rfl, hk.1⟩
    · cases h

theorem parseKanji_shape (s w r : Str) (h : parseKanji s = some (w, r)) :
    w ≠ [] ∧ ∀ c ∈ w, isKanjiCh c = true := by
  unfold parseKanji at h
  have hk := spanClass_fst isKanjiCh s
  split at h
  · cases h
  · next hne heq =>
    rw [heq] at hk
    split at h
    · cases h; exact ⟨hne, hk⟩
    · cases h
  · next hne heq => cases h; rw [heq] at hk; exact ⟨hne, hk⟩
  · cases h

theorem parseKanjis_shape : ∀ (fuel : Nat) (s : Str), ∀ w ∈ (parseKanjis fuel s).1, w ≠ [] ∧ ∀ c ∈ w, isKanjiCh c = true
  | 0, s, w, h => by simp [parseKanjis] at h
  | fuel + 1, s, w, h => by
    unfold parseKanjis at h
    split at h
    · next w0 r hp =>
      simp only at h
      rcases List.mem_cons.1 h with rfl | h
      · exact parseKanji_shape s _ r hp
      · exact parseKanjis_shape fuel r w h
    · simp at h

/-- What the SKK-JISYO parser returns is read off the line: a non-empty kana reading and, if present,
a non-empty lower-case okuri letter string. -/
theorem C18_parse_shape (s : Str) (e : SkkEntry) (h : parseSkk s = some e) :
    e.reading ≠ [] ∧ (∀ c ∈ e.reading, skkKana c = true) ∧
    (∀ o, e.okuri = some o → o ≠ [] ∧ ∀ c ∈ o, isAlpha c = true) := by
  obtain ⟨r4, hr, hrne, ho, _, _⟩ := parseSkk_some s e h
  refine ⟨hrne, ?_, ?_⟩
  · rw [hr]; exact spanClass_fst skkKana s
  · intro o hoo
    rw [ho, Option.ite_none_left_eq_some, Option.some.injEq] at hoo
    obtain ⟨hemp, rfl⟩ := hoo
    exact ⟨fun hn => hemp (List.isEmpty_iff.2 hn), spanClass_fst isAlpha _⟩

/-- Words returned by the parser contain no blank, slash or semicolon and are non-empty. -/
theorem C18_words_shape (s : Str) (e : SkkEntry) (h : parseSkk s = some e) :
    e.words ≠ [] ∧ ∀ w ∈ e.words, w ≠ [] ∧ ∀ c ∈ w, isKanjiCh c = true := by
  obtain ⟨r4, _, _, _, hw, hwne⟩ := parseSkk_some s e h
  refine ⟨hwne, ?_⟩
  rw [hw]
  exact parseKanjis_shape (r4.length + 1) r4

/-- Every line the noun / proper-noun / single-kanji converters emit is accepted by the dictionary
text format and reads back as the same reading, written form and part of speech — provided the
written form contains no TAB (the SKK candidate class excludes blank, slash and semicolon only). -/
theorem C18_emitted_valid (s : Str) (es : List Entry)
    (h : parseNouns s = some (some es) ∨ parsePropers s = some (some es) ∨ parseTankan s = some (some es)) :
    ∀ e ∈ es, (∀ c ∈ e.stem, c ≠ 9) → C10.parseL (C10.printE e) = some [e] := by
  intro e he hnotab
  apply C10.C10_entry
  obtain ⟨se, hp, hall⟩ := converters_spec s es h
  obtain ⟨hr, hw, hsp⟩ := hall e he
  obtain ⟨hrne, hrk, _⟩ := C18_parse_shape s se hp
  obtain ⟨_, hws⟩ := C18_words_shape s se hp
  obtain ⟨hwne, hwc⟩ := hws e.stem hw
  refine ⟨by rw [hr]; exact hrne, ?_, hwne, ?_, ?_⟩
  · intro c hc; rw [hr] at hc; exact skkKana_in_dic_class c (hrk c hc)
  · exact fun c hc => (isNoSpace_iff c).2 ⟨by rintro rfl; exact absurd (hwc 32 hc) (by decide), hnotab c hc⟩
  · rcases hsp with hsp | hsp <;> (rw [hsp]; decide +kernel)

/-- Okuri-ari lines are ignored by the noun converter, single-kanji conversion keeps one-character
candidates only. -/
theorem C18_noun_skips_okuri (s : Str) (e : SkkEntry) (h : parseSkk s = some e) (ho : e.okuri.isSome = true) :
    parseNouns s = some none := by
  simp [parseNouns, h, ho]

/-- A successfully parsed notes line has a non-empty kana headword, at most one okuri letter, at
least one entry, and every fixed okuri is a non-empty kana string. -/
theorem C18_notes_parse_shape (s : Str) (n : Note) (h : parseNote s = .note n) :
    n.headword ≠ [] ∧ (∀ c ∈ n.headword, skkKana c = true) ∧ n.okuri.length ≤ 1 ∧
    n.entries ≠ [] ∧ ∀ e ∈ n.entries, EntryOK e := by
  obtain ⟨a, b, c, _, d, e⟩ := parseNote_ok s n h
  exact ⟨a, b, c, d, e⟩

/-- Comment lines yield no note and no error. -/
theorem C18_notes_comment (rest : Str) : parseNote (59 :: rest) = .none := rfl

theorem dictionaryForm_sat (e : NoteEntry) (hw : Str) (he : EntryOK e) (hhw : hw ≠ []) :
    (dictionaryForm e hw).Sat fun p => ∃ ok, KanaStr ok ∧ p.1 ≠ [] ∧ p.1 <+: e.stem ++ ok ∧ p.2 ≠ [] ∧ p.2 <+: hw ++ ok ∧
      ∀ cls row o, e.speech = .verb cls row o → Speech.verb cls row ∈ storableSpeeches := by
  unfold dictionaryForm
  split
  · trivial
  · next h => exact (toOkuriKana_sat e.speech he.1).ne_panic h
  · next ok h =>
    obtain ⟨hk, hadj⟩ := (toOkuriKana_sat e.speech he.1).of_ok h
    have hst := dropDict_kana e.stem ok e.speech he.2.1 hk hadj
    have hrd := dropDict_kana hw ok e.speech hhw hk hadj
    split
    · trivial
    · next h => exact hst.ne_panic h
    · next st h1 =>
      obtain ⟨a1, a2, hv⟩ := hst.of_ok h1
      split
      · trivial
      · next h => exact hrd.ne_panic h
      · next rd h2 =>
        obtain ⟨b1, b2, -⟩ := hrd.of_ok h2
        exact ⟨ok, hk, a1, a2, b1, b2, hv⟩

theorem speechOf_storable (sp : NoteSpeech) (h : ∀ cls row o, sp = .verb cls row o → Speech.verb cls row ∈ storableSpeeches) :
    speechOf sp ∈ storableSpeeches := by
  cases sp with
  | verb cls row o => exact h cls row o rfl
  | noun tag o =>
    show (if (tag == lit "サ変名詞") then Speech.noun .sahen else Speech.noun .common) ∈ storableSpeeches
    split <;> exact nonverb_storable _ fun _ _ => Speech.noConfusion
  | _ => exact nonverb_storable _ fun _ _ => Speech.noConfusion

/-- What `to_entries` may emit for the candidate `e` under the headword `hw`. -/
def Emitted (hw : Str) (e : NoteEntry) (x : Entry) : Prop :=
  ∃ ok, KanaStr ok ∧ x.stem ≠ [] ∧ x.stem <+: e.stem ++ ok ∧ x.stemReading ≠ [] ∧ x.stemReading <+: hw ++ ok ∧
    x.speech ∈ storableSpeeches

theorem entryToEntries_sat (e : NoteEntry) (hw : Str) (he : EntryOK e) (hhw : hw ≠ []) :
    (entryToEntries e hw).Sat fun l => ∀ x ∈ l, Emitted hw e x := by
  unfold entryToEntries
  split
  · trivial
  · next h => exact (dictionaryForm_sat e hw he hhw).ne_panic h
  · next st rd h =>
    obtain ⟨ok, hk, a1, a2, b1, b2, hv⟩ := (dictionaryForm_sat e hw he hhw).of_ok h
    have mk : ∀ sp ∈ storableSpeeches, Emitted hw e ⟨st, rd, sp⟩ := fun sp h => ⟨ok, hk, a1, a2, b1, b2, h⟩
    have base := mk _ (speechOf_storable e.speech hv)
    simp only
    split
    · next sp hsp =>
      obtain ⟨o, -, ho⟩ := Option.bind_eq_some_iff.1 hsp
      have : sp ∈ storableSpeeches := by
        split at ho
        · cases ho; exact nonverb_storable _ fun _ _ => Speech.noConfusion
        · split at ho
          · cases ho; exact nonverb_storable _ fun _ _ => Speech.noConfusion
          · cases ho
      exact List.forall_mem_cons.2 ⟨base, List.forall_mem_singleton.2 (mk sp this)⟩
    · exact List.forall_mem_singleton.2 base

theorem noteToEntries_sat (n : Note) (R : Entry → Prop)
    (h : ∀ e ∈ n.entries, (entryToEntries e n.headword).Sat fun l => ∀ x ∈ l, R x) :
    (noteToEntries n).Sat fun es => ∀ x ∈ es, R x := by
  refine List.foldlRecOn (motive := CRes.Sat fun es => ∀ x ∈ es, R x) n.entries _ (fun _ h => nomatch h)
    fun acc hacc e he => ?_
  cases acc with
  | ok l =>
    have := h e he
    generalize entryToEntries e n.headword = r at this ⊢
    cases r with
    | ok l2 => exact List.forall_mem_append.2 ⟨hacc, this⟩
    | _ => exact this
  | _ => exact hacc

theorem notes_emitted (s : Str) (n : Note) (hp : parseNote s = .note n) :
    (noteToEntries n).Sat fun es => ∀ x ∈ es, ∃ e ∈ n.entries, Emitted n.headword e x := by
  obtain ⟨hne, -, -, -, hents⟩ := C18_notes_parse_shape s n hp
  exact noteToEntries_sat n _ fun e he =>
    (entryToEntries_sat e n.headword (hents e he) hne).mono fun l hl x hx => ⟨e, he, hl x hx⟩

/-- **Every entry the notes converter emits for a parsed line is accepted by the dictionary text
format and reads back as the same reading, written form and part of speech** — provided the written
form holds no blank or TAB (the notes stem class excludes `;` and `/` only). -/
theorem C18_notes_emitted_valid (s : Str) (n : Note) (es : List Entry)
    (hp : parseNote s = .note n) (hc : noteToEntries n = .ok es) :
    ∀ x ∈ es, (∀ c ∈ x.stem, c ≠ 32 ∧ c ≠ 9) → C10.parseL (C10.printE x) = some [x] := by
  intro x hx hsp
  obtain ⟨_, hkana, -⟩ := C18_notes_parse_shape s n hp
  obtain ⟨e, -, ok, hok, st_ne, -, rd_ne, rd_pre, hspch⟩ := (notes_emitted s n hp).of_ok hc x hx
  refine C10.C10_entry x ⟨rd_ne, fun c hc => ?_, st_ne, fun c hc => (isNoSpace_iff c).2 (hsp c hc), hspch⟩
  exact skkKana_in_dic_class c ((List.mem_append.1 (rd_pre.mem hc)).elim (hkana c) (hok c))

/-- The reading of every emitted entry starts with the headword's first kana and is a prefix of
headword ++ okuri; the written form likewise starts with the note stem's first character. -/
theorem C18_notes_faithful (s : Str) (n : Note) (es : List Entry)
    (hp : parseNote s = .note n) (hc : noteToEntries n = .ok es) :
    ∀ x ∈ es, ∃ e ∈ n.entries, ∃ ok, KanaStr ok ∧
      x.stem ≠ [] ∧ x.stem <+: e.stem ++ ok ∧ x.stemReading ≠ [] ∧ x.stemReading <+: n.headword ++ ok := by
  intro x hx
  obtain ⟨e, he, ok, h1, h2, h3, h4, h5, -⟩ := (notes_emitted s n hp).of_ok hc x hx
  exact ⟨e, he, ok, h1, h2, h3, h4, h5⟩

/-- **The notes converter never panics on a parsed line**: the only way a parsed note fails to
convert is the explicit unsupported-conjugation rejection (`form_to_skk_okuri`'s `panic!` arms). -/
theorem C18_notes_no_panic (s : Str) (n : Note) (hp : parseNote s = .note n) : noteToEntries n ≠ .panic :=
  (notes_emitted s n hp).ne_panic

/-! Non-vacuity: concrete lines meet the hypotheses (a verb with class okuri, an affix-producing
adverb, an adjective with a fixed okuri). -/

def exLine1 : Str := lit "わらu /笑;∥<base>ワ行五段[wiueot(c)]/"
def exLine2 : Str := lit "ふ /不;∥副詞[>]/"
def exLine3 : Str := lit "おんみつ /隠密;∥形容動詞[φdn(s)]/"

def convOk (s : Str) : Bool :=
  match parseNote s with
  | .note n => (match noteToEntries n with | .ok es => !es.isEmpty | _ => false)
  | _ => false

example : convOk exLine1 = true ∧ convOk exLine2 = true ∧ convOk exLine3 = true := by decide +kernel

/-- The line of finding D14, a defect repaired in the repository (a one-byte stem with a fixed okuri
shorter than the class's dictionary ending made `drop_dictionary_okuri` panic): it converts. -/
example : convOk (lit "くし /a;∥文語ア行下一(-た)[--]/") = true := by decide +kernel

open Chokan.Skk in
/-- **For well-formed lines the parser returns exactly the reading, okuri letter and candidate words written in the line,
annotations stripped** — stated against an independent printer of SKK lines (`printSkk`: reading in the SKK kana class,
optional lower-case okuri, blanks, then `/word[;annotation]/…/`), for every such line. -/
theorem C18_skk_exact (reading okuri sp : Str) (ws : List Written)
    (hr : reading ≠ []) (hrk : ∀ c ∈ reading, skkKana c = true) (hok : ∀ c ∈ okuri, isAlpha c = true)
    (hs : sp ≠ []) (hsp : ∀ c ∈ sp, isSpace c = true) (hws : ws ≠ []) (hw : ∀ w ∈ ws, WrittenOK w) :
    parseSkk (printSkk reading okuri sp ws) =
      some ⟨reading, if okuri.isEmpty then none else some okuri, ws.map (·.word)⟩ := by
  -- the three spans: kana up to the okuri letters or blanks, letters up to the blanks, blanks up to the `/`
  have h1 := spanClass_seg skkKana reading (okuri ++ sp) (47 :: (ws.map printCand).flatten) hrk
    (fun c hc => (List.mem_append.1 hc).elim (fun h => alpha_not_kana c (hok c h)) fun h => (space_not_kana_alpha c (hsp c h)).1)
    (by simp [hs])
  have h2 := spanClass_seg isAlpha okuri sp (47 :: (ws.map printCand).flatten) hok
    (fun c hc => (space_not_kana_alpha c (hsp c hc)).2) hs
  have h3 := spanClass_append isSpace sp 47 (ws.map printCand).flatten hsp (by decide)
  have h4 := parseKanjis_print ws _ hw (Nat.lt_succ_self _)
  rw [List.append_assoc] at h1
  unfold parseSkk printSkk
  simp only [h1, h2, h3, h4]
  simp [List.isEmpty_eq_false_iff.2 hr, List.isEmpty_eq_false_iff.2 hs, hws]

open Chokan.Skk in
/-- … hence the noun converter emits one common noun per written word of an okuri-less line and skips okuri-ari lines, and
the jinmei converter one proper noun per written word. -/
theorem C18_skk_converters_exact (reading okuri sp : Str) (ws : List Written)
    (hr : reading ≠ []) (hrk : ∀ c ∈ reading, skkKana c = true) (hok : ∀ c ∈ okuri, isAlpha c = true)
    (hs : sp ≠ []) (hsp : ∀ c ∈ sp, isSpace c = true) (hws : ws ≠ []) (hw : ∀ w ∈ ws, WrittenOK w) :
    parseNouns (printSkk reading okuri sp ws) =
      some (if okuri.isEmpty then some (ws.map fun w => ⟨w.word, reading, .noun .common⟩) else none) ∧
    parsePropers (printSkk reading okuri sp ws) = some (some (ws.map fun w => ⟨w.word, reading, .noun .proper⟩)) := by
  unfold parseNouns parsePropers
  rw [C18_skk_exact reading okuri sp ws hr hrk hok hs hsp hws hw]
  cases okuri.isEmpty <;> simp [List.map_map, Function.comp_def]

open Chokan.Skk in
/-- non-vacuity: `かk /書;write/描/` -/
example : parseSkk (printSkk [12363] [107] [32] [⟨[26360], some [119, 114, 105, 116, 101]⟩, ⟨[25551], none⟩]) =
    some ⟨[12363], some [107], [[26360], [25551]]⟩ := by decide

def noteStep (hw : Str) (acc : CRes (List Entry)) (e : NoteEntry) : CRes (List Entry) :=
  match acc with
  | .ok l => (match entryToEntries e hw with
    | .ok l2 => .ok (l ++ l2)
    | .unsupported => .unsupported
    | .panic => .panic)
  | r => r

theorem noteToEntries_eq (n : Note) : noteToEntries n = n.entries.foldl (noteStep n.headword) (.ok []) := rfl

theorem noteFold_bad (hw : Str) : ∀ (es : List NoteEntry),
    es.foldl (noteStep hw) (.unsupported : CRes (List Entry)) = .unsupported ∧
      es.foldl (noteStep hw) (.panic : CRes (List Entry)) = .panic
  | [] => ⟨rfl, rfl⟩
  | _ :: t => by simp only [List.foldl_cons, noteStep]; exact noteFold_bad hw t

theorem noteFold_pre (hw : Str) (a : List Entry) : ∀ (es : List NoteEntry) (r : CRes (List Entry)),
    es.foldl (noteStep hw) (r.pre a) = (es.foldl (noteStep hw) r).pre a
  | [], _ => rfl
  | e :: t, r => by
    rw [List.foldl_cons, List.foldl_cons, ← noteFold_pre hw a t]
    congr 1
    cases r with
    | ok l => simp only [noteStep, CRes.pre]; cases entryToEntries e hw <;> simp
    | _ => rfl

theorem noteToEntries_append (hw ok : Str) (es1 es2 : List NoteEntry) :
    noteToEntries ⟨hw, ok, es1 ++ es2⟩ = match noteToEntries ⟨hw, ok, es1⟩ with
      | .ok l1 => (noteToEntries ⟨hw, ok, es2⟩).pre l1
      | r => r := by
  simp only [noteToEntries_eq, List.foldl_append]
  cases es1.foldl (noteStep hw) (.ok []) with
  | ok l1 => simpa [CRes.pre] using noteFold_pre hw l1 es2 (.ok [])
  | unsupported => exact (noteFold_bad hw es2).1
  | panic => exact (noteFold_bad hw es2).2

/-- **Each part of speech of a note is converted on its own terms**: the entries a note with the candidates `es₁ ++ es₂`
emits are those of `es₁` followed by those of `es₂` — nothing computed for one candidate (its dictionary form, its okuri)
carries over to another, also when they share a stem. -/
theorem C18_notes_entrywise (hw ok : Str) (es1 es2 : List NoteEntry) (l1 l2 : List Entry)
    (h1 : noteToEntries ⟨hw, ok, es1⟩ = .ok l1) (h2 : noteToEntries ⟨hw, ok, es2⟩ = .ok l2) :
    noteToEntries ⟨hw, ok, es1 ++ es2⟩ = .ok (l1 ++ l2) := by
  rw [noteToEntries_append, h1, h2]
  rfl

end Chokan.Props.C18
