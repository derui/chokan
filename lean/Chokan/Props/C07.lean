/-
C07 — a registered word becomes convertible, for every kind and every well-formed pair.

Model: Chokan.Model.Server (`register`, `applyEntry`, `addStdWord`).
-/
import Chokan.Model.Server
import Chokan.Lemmas.Kkc
import Chokan.Lemmas.Dic
import Chokan.Lemmas.Builder
import Chokan.Gen.Dic
import Chokan.Props.C03
import Chokan.Props.C12

namespace Chokan.Props.C07
open Chokan.Server Chokan.Kkc Chokan.Dic

/-- After the updater has added a word whose reading is spelled in the alphabet, looking the reading
up (trie, then map) finds the word. -/
theorem C07_added_word_found (alpha : List Nat) (d : Dict) (w : Word) (ha : inAlpha alpha w.reading = true) :
    w ∈ lookup (addStdWord alpha d w).stdTrie (addStdWord alpha d w).std w.reading := by
  simp only [lookup, addStdWord, any_trieInsert, getD_findMap_addToMap]
  rw [ha, (Kkc.beqStr_iff _ _).2 rfl, Bool.and_self, Bool.or_true, if_pos rfl, if_pos trivial]
  exact List.mem_append_right _ (List.mem_singleton_self w)

/-- Registration only adds: every word that was found before is still found (earlier trie keys and
map entries are kept, in order). -/
theorem C07_monotone (alpha : List Nat) (d : Dict) (w x : Word) (key : Str)
    (h : x ∈ lookup d.stdTrie d.std key) : x ∈ lookup (addStdWord alpha d w).stdTrie (addStdWord alpha d w).std key := by
  simp only [lookup, addStdWord, any_trieInsert, getD_findMap_addToMap] at h ⊢
  split at h
  · next ht =>
    rw [ht, Bool.true_or, if_pos rfl]
    exact List.mem_append_left _ h
  · cases h

/-- Everything the guesser can produce conjugates, so the updater never panics on a guessed entry
(see C12_guess_total) — the form preceding ない is among the conjugated forms (C12_guess_conjugable). -/
theorem C07_guess_conjugable : guessCheck Chokan.Gen.Dic.conjTable Chokan.Gen.Dic.guessTable = true :=
  C12.C12_guess_conjugable

theorem addStdWord_wf (alpha : List Nat) (d : Dict) (w : Word) (hne : w.reading ≠ []) (hd : Dict.WF d) :
    Dict.WF (addStdWord alpha d w) :=
  ⟨forall_mem_addToMap (fun p => p.1 ≠ [] ∧ ∀ x ∈ p.2, x.reading = p.1) w.reading w
      ⟨hne, List.forall_mem_singleton.2 rfl⟩
      (fun _ hv => ⟨hne, List.forall_mem_append.2 ⟨hv.2, List.forall_mem_singleton.2 rfl⟩⟩) d.std hd.1,
    hd.2⟩

/-- **A registered word is offered.**  Once the updater has applied an independent word whose non-empty
reading is spelled in the trie alphabet, every input that begins with that reading gets — in every
context, with any learned counts, from some number of loop iterations on — a candidate list that
contains the word's written form followed by the rest of the input, unless the list is cut at `n`
(lookup: `C07_added_word_found`; lattice and search: `C03_complete_head`, `C02_full`). -/
theorem C07_registered_word_offered (alpha : List Nat) (d : Dict) (w : Word) (rest : Str) (ctx : Ctx) (f : Freq)
    (n : Nat) (hn : 1 ≤ n) (hd : Dict.WF d) (hne : w.reading ≠ []) (ha : inAlpha alpha w.reading = true)
    (hind : w.speech.isAncillary = false) :
    ∃ fuel0 R, ∀ fuel, fuel0 ≤ fuel →
      getCandidates genTables (w.reading ++ rest) (addStdWord alpha d w) ctx f n fuel = some R ∧
      (w.word ++ rest ∈ R.map Cand.text ∨ R.length = n) := by
  have hlen : 0 < w.reading.length := List.length_pos_iff.2 hne
  have hi : w.reading.length - 1 + 1 = w.reading.length := by omega
  -- `slice` takes an inclusive end index
  have hslice : slice (w.reading ++ rest) 0 (w.reading.length - 1) = w.reading := by
    rw [slice, hi, List.drop_zero, Nat.sub_zero, List.take_left' rfl]
  have h := C03.C03_complete_head (w.reading ++ rest) (addStdWord alpha d w) ctx f n hn
    (addStdWord_wf alpha d w hne hd) (w.reading.length - 1) (by rw [List.length_append]; omega) w
    (hslice.symm ▸ C07_added_word_found alpha d w ha) hind
  rwa [hi, List.drop_left' rfl] at h

end Chokan.Props.C07
