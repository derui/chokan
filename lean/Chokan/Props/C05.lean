/-
C05 — no request history can wedge, poison or kill the conversion server.

Model: Chokan.Model.Server.  `none` results of the model are the panics of the Rust code; the theorems
say which steps can panic at all and that those that hold locks cannot.
-/
import Chokan.Model.Server
import Chokan.Lemmas.ServerStep

namespace Chokan.Props.C05
open Chokan.Server Chokan.Kkc Chokan.Dic

/-- A conversion (which runs while holding the dictionary and user-preference locks) never panics,
for any input — the empty one included — any dictionary and any learned data. -/
theorem C05_convert_total (c : Cfg) (s : State) (ctx : Ctx) (input : Str) :
    ∃ r, convert c s ctx input = some r :=
  let ⟨_, h⟩ := convert_eq c s ctx input
  ⟨_, h⟩

/-- A confirmation (which holds the session-store and user-preference locks) never panics. -/
theorem C05_confirm_total (c : Cfg) (s : State) (sid : Nat) (cid : Option Nat) (now : Int) :
    ∃ s', confirm c s sid cid now = s' := ⟨_, rfl⟩

/-- RegisterWord touches shared state only through the entry channel; a panic in the guesser happens
before anything is sent, with no lock held: the state is unchanged. -/
theorem C05_register_no_partial_effect (c : Cfg) (s s' : State) (k : RegKind) (r w : Str)
    (h : register c s k r w = some s') :
    s'.dict = s.dict ∧ s'.freq = s.freq ∧ s'.userDict = s.userDict ∧ s'.sessions = s.sessions ∧
      ∃ e, s'.pending = s.pending ++ [e] := by
  obtain ⟨e, _, he⟩ := register_eq c s k r w
  obtain ⟨x, rfl, rfl⟩ := Option.map_eq_some_iff.1 (he ▸ h)
  exact ⟨rfl, rfl, rfl, rfl, x, rfl⟩

/-- Nouns always conjugate (to themselves): registering a noun can never make the updater panic. -/
theorem C05_noun_entry_applies (c : Cfg) (d : Dict) (stem rd : Str) (v : NounVariant) :
    ∃ d', mergeEntry c d ⟨stem, rd, .noun v⟩ = some d' := by
  simp [mergeEntry, entryToWords, toForms]

/-- **No history can make the server refuse a conversion**: after any sequence of requests and background
steps — failed ones included — a conversion request for any input in any context is answered. -/
theorem C05_history_convert_answered (c : Cfg) (s0 : State) (ops : List Op) (ctx : Ctx) (input : Str) :
    ∃ r, convert c (runOps c s0 ops) ctx input = some r :=
  C05_convert_total c _ ctx input

/-- **No history can poison the answers**: what a conversion answers depends on the running dictionary and
the learned counts only — not on open sessions, ids handed out, queued entries or what was saved. A
freshly started server with the same dictionary and learned data answers identically. -/
theorem C05_answer_depends_on_dict_and_counts (c : Cfg) (s s' : State) (ctx : Ctx) (input : Str)
    (hd : s.dict = s'.dict) (hf : s.freq = s'.freq) :
    (convert c s ctx input).map (·.2.2) = (convert c s' ctx input).map (·.2.2) := by
  rw [convert_answer, convert_answer, hd, hf]

/-- Requests that fail (a refused or panicking registration, a confirmation of an unknown session or
candidate) change neither the dictionary nor the learned counts. -/
theorem C05_failed_requests_change_nothing (c : Cfg) (s : State) :
    (∀ k r w, register c s k r w = none → (stepOp c s (.register k r w)) = s) ∧
    (∀ sid cid now, s.sessions.find? (·.sid == sid) = none →
      (confirm c s sid cid now).dict = s.dict ∧ (confirm c s sid cid now).freq = s.freq ∧
      (confirm c s sid cid now).userDict = s.userDict ∧ (confirm c s sid cid now).pending = s.pending) ∧
    (∀ sid now sess, s.sessions.find? (·.sid == sid) = some sess →
      ∀ cid, (cid.bind fun i => sess.cands[i]?) = none →
      (confirm c s sid cid now).dict = s.dict ∧ (confirm c s sid cid now).freq = s.freq ∧
      (confirm c s sid cid now).userDict = s.userDict ∧ (confirm c s sid cid now).pending = s.pending) := by
  refine ⟨?_, ?_, ?_⟩
  · intro k r w h; simp [stepOp, h]
  · intro sid cid now h
    rw [confirm_unknown_session h]
    exact ⟨rfl, rfl, rfl, rfl⟩
  · intro sid now sess h cid hc
    rw [confirm_unknown_candidate h hc]
    exact ⟨rfl, rfl, rfl, rfl⟩

end Chokan.Props.C05
