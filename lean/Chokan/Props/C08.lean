/-
C08 — saved user data restores exactly; a restart does not change any answer.

Model: `save` / `restart` / `start` of Chokan.Model.Server; the user dictionary goes through the text
format of C10 (`writeAll` / `readAll`), the learned counts are restored as saved (the postcard wire
format is not modelled; it is compared on the real files by the check).
-/
import Chokan.Props.C10
import Chokan.Model.Server
import Chokan.Gen.Server
import Chokan.Gen.Kkc
import Chokan.Gen.KanaAlpha
import Chokan.Lemmas.ServerStep

namespace Chokan.Props.C08
open Chokan.Server Chokan.Kkc Chokan.Dic Chokan.DicText

/-- The configuration of the real server: every table regenerated from the source. -/
def cfg : Cfg :=
  { tables := { wordEdges := Chokan.Gen.Kkc.wordEdges, virtEdges := Chokan.Gen.Kkc.virtEdges, headEdges := Chokan.Gen.Kkc.headEdges,
                mergeHead := Chokan.Gen.Kkc.mergeHead, properBonus := Chokan.Gen.Kkc.properBonus },
    conj := Chokan.Gen.Dic.conjTable, adj := Chokan.Gen.Dic.adjectiveForms, adjv := Chokan.Gen.Dic.adjectivalVerbForms,
    guess := Chokan.Gen.Dic.guessTable, names := Chokan.Gen.Dic.simpleNames, vsuf := Chokan.Gen.Dic.verbSuffix,
    kanaClass := Chokan.Gen.DicGrammar.kanaClass, alts := Chokan.Gen.DicGrammar.speechAlts, kata := Chokan.Gen.DicGrammar.katakanaClass,
    alpha := Chokan.Gen.Server.alphabet, kanaAlpha := Chokan.Gen.KanaAlpha.table, expiryMs := Chokan.Gen.Server.expiryMs,
    nCandidates := Chokan.Gen.Server.nCandidates, fuel := 1000000 }

/-- user.dic round trip: what a save writes is read back as exactly the user dictionary, entry by
entry and in order, for every storable user dictionary (C10_file). -/
theorem C08_user_dic_roundtrip (es : List Entry) (h : ∀ e ∈ es, C10.Storable e ∧ ∀ c ∈ e.stem, c ≠ 10) :
    readAll cfg.kanaClass cfg.alts cfg.kata (writeAll cfg.names cfg.vsuf es) = es :=
  C10.C10_file es h

/-- Every reading spelled in the dictionary (trie) alphabet is a reading the text format accepts, so
nothing registrable under a convertible reading is dropped for its reading. -/
theorem C08_alphabet_in_reading_class :
    Chokan.Gen.Server.alphabet.all (fun c => isKana Chokan.Gen.DicGrammar.kanaClass c) = true := by
  decide +kernel

/-- An accepted registration queues an entry that user.dic stores faithfully (the handler checks it). -/
theorem C08_register_storable (s s' : State) (k : RegKind) (r w : Str) (h : register cfg s k r w = some s') :
    ∃ e, s'.pending = s.pending ++ [e] ∧
      readAll cfg.kanaClass cfg.alts cfg.kata (printEntry cfg.names cfg.vsuf e) = [e] := by
  obtain ⟨e, hst, he⟩ := register_eq cfg s k r w
  obtain ⟨x, rfl, rfl⟩ := Option.map_eq_some_iff.1 (he ▸ h)
  exact ⟨x, rfl, by simpa [storable] using hst x rfl⟩

/-- A start after a completed save restores the learned counts as saved and the user dictionary
exactly (when it round-trips), with the save directory kept. -/
theorem C08_restart_restores (s s' : State) (hdir : s.hasDir = true)
    (hrt : readAll cfg.kanaClass cfg.alts cfg.kata (writeAll cfg.names cfg.vsuf s.userDict) = s.userDict)
    (h : restart cfg (save cfg s) = some s') :
    s'.freq = s.freq ∧ s'.userDict = s.userDict ∧ s'.hasDir = true ∧ s'.base = s.base ∧
      mergeEntries cfg s.base s.userDict = some s'.dict := by
  simp only [restart, save_eq, hdir, if_true, start, hrt, Option.map_eq_some_iff] at h
  obtain ⟨d, hd, rfl⟩ := h
  exact ⟨rfl, rfl, rfl, rfl, hd⟩

/-- Saving and restoring again is idempotent: the second save writes what the first one wrote. -/
theorem C08_idempotent (s s' : State) (hdir : s.hasDir = true)
    (hrt : readAll cfg.kanaClass cfg.alts cfg.kata (writeAll cfg.names cfg.vsuf s.userDict) = s.userDict)
    (h : restart cfg (save cfg s) = some s') :
    (save cfg s').saved.map (fun x => (x.freq, x.userDicText)) =
      (save cfg s).saved.map (fun x => (x.freq, x.userDicText)) := by
  obtain ⟨hf, hu, hd, _, _⟩ := C08_restart_restores s s' hdir hrt h
  simp [save_eq, hdir, hd, hf, hu]

/-- The invariant a restart needs in order to change no answer: the running dictionary is the image
merged with the user dictionary in registration order.  It holds at every start … -/
def InvDict (s : State) : Prop := mergeEntries cfg s.base s.userDict = some s.dict

theorem C08_inv_at_start (base : Dict) (tk : List (Str × List Word)) (dir : Bool) (sv : Option Saved) (s : State)
    (h : start cfg base tk dir sv = some s) : InvDict s := by
  simp only [start, Option.map_eq_some_iff] at h
  obtain ⟨d, hd, rfl⟩ := h
  exact hd

/-- Clients and the saver touch none of the three fields; the updater extends the user dictionary and the running dictionary
by the same entry. -/
theorem inv_step (s : State) (op : Op) (hinv : InvDict s) : InvDict (stepOp cfg s op) := by
  unfold InvDict at hinv ⊢
  by_cases h : op = .apply
  · subst h
    rcases stepOp_apply cfg s with h | ⟨e, _, ws, _, hws, h⟩ <;> rw [h]
    · exact hinv
    · simp [mergeEntries_append, hinv, mergeEntries, mergeEntry, hws]
  · obtain ⟨_, _, _, _, _, h⟩ := stepOp_client cfg s h
    rw [h]
    exact hinv

/-- … and is preserved when the updater applies a registered entry. -/
theorem C08_inv_apply (s s' : State) (hinv : InvDict s) (h : applyEntry cfg s = some s') : InvDict s' := by
  have := inv_step s .apply hinv
  rwa [stepOp, h] at this

/-! `C08_same_answers_partial` proves `C08_full_statement` for histories of quiet steps (`QuietHistory`): steps that leave the
user dictionary to the updater. The defect repaired by fix c5e9959 is a compound confirmation that is not quiet: it appends its
entry to the user dictionary itself and also queues it, so a restarted dictionary holds the compound's word twice where the
running one holds it once, `InvDict` fails, and two equal-score candidates come back in the other order. In the model every step
is quiet (`quiet_all`), so the full statement is a theorem (`C08_full`). -/

/-- Full strength: in every reachable quiescent state, save + restart changes no answer. -/
def C08_full_statement : Prop :=
  ∀ (s0 s s' : State) (ops : List Op), InvDict s0 → s = runOps cfg s0 ops → s.pending = [] → s.hasDir = true →
    readAll cfg.kanaClass cfg.alts cfg.kata (writeAll cfg.names cfg.vsuf s.userDict) = s.userDict →
    restart cfg (save cfg s) = some s' →
    ∀ ctx input, (convert cfg s' ctx input).map (·.2.2) = (convert cfg s ctx input).map (·.2.2)

/-- A step that is not a compound confirmation: it leaves the user dictionary alone, or it is the updater. -/
def QuietStep (s : State) (op : Op) : Prop := (stepOp cfg s op).userDict = s.userDict ∨ op = .apply

theorem base_step (s : State) (op : Op) : (stepOp cfg s op).base = s.base := by
  by_cases h : op = .apply
  · subst h
    rcases stepOp_apply cfg s with h | ⟨_, _, _, _, _, h⟩ <;> rw [h]
  · obtain ⟨_, _, _, _, _, h⟩ := stepOp_client cfg s h
    rw [h]

theorem dict_step_non_apply (s : State) (op : Op) (h : op ≠ .apply) : (stepOp cfg s op).dict = s.dict := by
  obtain ⟨_, _, _, _, _, h⟩ := stepOp_client cfg s h
  rw [h]

/-- The invariant survives every quiet step … -/
theorem C08_inv_step (s : State) (op : Op) (hinv : InvDict s) (hq : QuietStep s op) : InvDict (stepOp cfg s op) :=
  inv_step s op hinv

/-- … hence every history of quiet steps (`QuietHistory`: each step is quiet in the state it runs in). -/
def QuietHistory : State → List Op → Prop
  | _, [] => True
  | s, op :: t => QuietStep s op ∧ QuietHistory (stepOp cfg s op) t

theorem C08_inv_history : ∀ (ops : List Op) (s : State), InvDict s → QuietHistory s ops → InvDict (runOps cfg s ops) :=
  fun ops _ h _ => List.foldlRecOn (motive := InvDict) ops (stepOp cfg) h fun s h op _ => inv_step s op h

/-- **After a save and restart every conversion returns the same candidates in the same order** — for
every history without compound confirmations (see the section header for what is missing). -/
theorem C08_same_answers_partial (s0 s s' : State) (ops : List Op) (hinv : InvDict s0) (hs : s = runOps cfg s0 ops)
    (hquiet : QuietHistory s0 ops) (hdir : s.hasDir = true)
    (hrt : readAll cfg.kanaClass cfg.alts cfg.kata (writeAll cfg.names cfg.vsuf s.userDict) = s.userDict)
    (h : restart cfg (save cfg s) = some s') :
    ∀ ctx input, (convert cfg s' ctx input).map (·.2.2) = (convert cfg s ctx input).map (·.2.2) := by
  obtain ⟨hf, _, _, _, hd⟩ := C08_restart_restores s s' hdir hrt h
  have hI : InvDict s := hs ▸ C08_inv_history ops s0 hinv hquiet
  -- the restart merges the same user dictionary into the same image as the invariant says the running dictionary is
  have hdict : s'.dict = s.dict := Option.some.inj (hd.symm.trans hI)
  intro ctx input
  rw [convert_answer, convert_answer, hdict, hf]

/-- With fix c5e9959 every step is quiet: only the updater touches the user dictionary. -/
theorem quiet_all (s : State) (op : Op) : QuietStep s op := by
  by_cases h : op = .apply
  · exact .inr h
  · obtain ⟨_, _, _, _, _, h⟩ := stepOp_client cfg s h
    exact .inl (by rw [h])

theorem quiet_history : ∀ (ops : List Op) (s : State), QuietHistory s ops
  | [], _ => trivial
  | op :: t, s => ⟨quiet_all s op, quiet_history t (stepOp cfg s op)⟩

/-- **C08 at full strength on the model: after a save and restart every conversion returns the same candidates in the same
order, for every history** — registrations, conversions, confirmations (compound confirmations included), updater steps
and saves in any order. -/
theorem C08_full : C08_full_statement := by
  intro s0 s s' ops hinv hs _ hdir hrt h
  exact C08_same_answers_partial s0 s s' ops hinv hs (quiet_history ops s0) hdir hrt h

/-! Non-vacuity of `C08_same_answers_partial`: a state with `InvDict` and a quiet history from it. -/

def exBase : Dict :=
  { std := [([12363], [{ word := [34442], reading := [12363], speech := .noun .common }])], stdTrie := [[12363]],
    anc := [], ancTrie := [] }

def exState : State :=
  { base := exBase, tankan := [], dict := exBase, freq := [], userDict := [], sessions := [], pending := [],
    nextSid := 0, hasDir := true, saved := none }

def exOps : List Op :=
  [.register .commonNoun [12363] [39321], .apply, .convert .normal [12363], .confirm 0 (some 0) 7, .save]

example : InvDict exState := by unfold InvDict; rfl

example : QuietHistory exState exOps := quiet_history exOps exState

example : (runOps cfg exState exOps).userDict = [⟨[39321], [12363], .noun .common⟩] ∧
    (runOps cfg exState exOps).freq.map (fun e => (e.word, e.count)) = [([39321], 1)] ∨
    (runOps cfg exState exOps).freq.map (fun e => (e.word, e.count)) = [([34442], 1)] := by
  decide +kernel

/-! The history that exposes the defect repaired by fix c5e9959: a compound (prefix 御 + 蚊) is confirmed and applied. Here the
user dictionary holds it once, and the dictionary a restart would build is the running one. -/

def exBase2 : Dict :=
  { std := [([12363], [{ word := [34442], reading := [12363], speech := .noun .common }])], stdTrie := [[12363]],
    anc := [([12362], [{ word := [24481], reading := [12362], speech := .affix .prefix }])], ancTrie := [[12362]] }

def exState2 : State := { exState with base := exBase2, dict := exBase2 }

def exOps2 : List Op := [.convert .normal [12362, 12363], .confirm 0 (some 0) 7, .apply]

example : (runOps cfg exState2 exOps2).userDict.length = 1 ∧ (runOps cfg exState2 exOps2).pending = [] ∧
    (mergeEntries cfg exState2.base (runOps cfg exState2 exOps2).userDict).map (fun d => d.std.map fun p => p.2.length) =
      some [1, 1] ∧
    (runOps cfg exState2 exOps2).dict.std.map (fun p => p.2.length) = [1, 1] := by
  decide +kernel

end Chokan.Props.C08
