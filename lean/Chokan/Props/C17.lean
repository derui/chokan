/-
C17 — Original-spelling conversion is total, ASCII-only and consistent with the client.

Models: Chokan.Model.KanaAlpha (server, kana_alpha::convert) and Chokan.Model.Romaji (client).
Data: Chokan.Gen.KanaAlpha (server table), Chokan.Gen.Romaji (client tables), and
Chokan.Gen.KnownFindings (units excluded from `C17_client_inverse` because they are recorded
findings; a new failing unit is not excluded and breaks the theorem).
-/
import Chokan.Lemmas.KanaAlphaKata
import Chokan.Gen.KanaAlpha
import Chokan.Props.C19
import Chokan.Gen.KnownFindings

namespace Chokan.Props.C17
open Chokan.KanaAlpha

def table := Chokan.Gen.KanaAlpha.table
def serverConv (s : Str) : Option Str := convert table s

def clientConv (s : Str) : Option Str :=
  Chokan.Romaji.conv Chokan.Gen.Romaji.romanTable Chokan.Gen.Romaji.consonants
    (Chokan.Gen.Romaji.dotimesBound (Chokan.Romaji.maxKey Chokan.Gen.Romaji.romanTable)) s

theorem kata_table : kataTableOk (sortTable table) := forall_mem_sortTable (by decide +kernel)

theorem hira_nonempty : hiraNonEmpty (sortTable table) := kata_table.hiraNonEmpty

theorem kana_columns : kanaColumnsOk (sortTable table) := kata_table.kanaColumnsOk

theorem alphas_ascii : alphasAscii (sortTable table) := forall_mem_sortTable (by decide +kernel)

theorem single_kana : singleKanaCovered (sortTable table) := singleKanaCovered_of_all (by decide +kernel)

/-- `okChar` is exactly the client's class. -/
theorem C17_okChar_class (c : Nat) : okChar c = true ↔ Chokan.Gen.Romaji.clientClass c = true := by
  simp only [okChar, asciiAlnum, plainHira, Chokan.Gen.Romaji.clientClass, Bool.or_eq_true,
    Bool.and_eq_true, Nat.ble_eq, decide_eq_true_eq] <;> omega

theorem okChar_of_class {s : Str} (hs : ∀ c ∈ s, Chokan.Gen.Romaji.clientClass c = true) :
    ∀ c ∈ s, okChar c = true :=
  fun c hc => (C17_okChar_class c).2 (hs c hc)

/-- Totality: for every input (any scalar values) the conversion loop terminates within |nfc s|+1
iterations and never gets stuck (every step consumes at least one character). -/
theorem C17_total (s : Str) : ∃ out, serverConv s = some out :=
  convLoop_total hira_nonempty (nfcKana s)

/-- Every output character is a lower-case ASCII letter/digit taken from the table, or the
lower-cased copy of an input character that no table unit covered. -/
theorem C17_output_chars (s out : Str) (h : serverConv s = some out) :
    ∀ c ∈ out, asciiLower c = true ∨ ∃ x ∈ nfcKana s, c = lower x :=
  convLoop_chars hira_nonempty alphas_ascii h

/-- The ASCII clause at full strength: for every input over the client's class `[a-zA-Z0-9あ-ん]`
the result consists of lower-case ASCII letters and digits only. -/
theorem C17_ascii (s out : Str) (hs : ∀ c ∈ s, Chokan.Gen.Romaji.clientClass c = true)
    (h : serverConv s = some out) : ∀ c ∈ out, asciiLower c = true := by
  have hs' := okChar_of_class hs
  exact convLoop_ascii hira_nonempty alphas_ascii single_kana hs' ((convert_of_okChar table hs').symm.trans h)

def memStr (s : Str) : List Str → Bool
  | [] => false
  | x :: t => beqStr s x || memStr s t

def optEq (a : Option Str) (b : Str) : Bool :=
  match a with
  | some x => beqStr x b
  | none => false

/-- The client reads the unit's spelling back as the unit, alone and after a sokuon. -/
def inverseRowOk (row : Row) : Bool :=
  let h := row.1
  let a := row.2.2
  beqStr h [0x3093] ||                                       -- ん is pinned to a single n by the repository's tests
  memStr h Chokan.Gen.KnownFindings.c17Alone ||
  (optEq (clientConv a) h &&
    (memStr h Chokan.Gen.KnownFindings.c17Sokuon ||
      optEq ((serverConv (0x3063 :: h)).bind clientConv) (0x3063 :: h)))     -- the server's own spelling of っ + unit

open Chokan.Gen.Romaji in
/-- `sp` is the spelling `a` behind its own doubled first consonant, or behind a spelling of っ that does
not run into a doubled consonant. -/
def spellsSokuonThen (a sp : Str) : Bool :=
  (match a with
    | c :: _ => Romaji.memNat c consonants && beqStr sp (c :: a)
    | [] => false) ||
  (let k := sp.take (sp.length - a.length)
   beqStr sp (k ++ a) && optEq (Romaji.assoc k romanTable) [0x3063] && !Romaji.sokuonP consonants sp)

/-- The reason a row passes `inverseRowOk`, which the kernel can check without running the client: the
unit's spelling is a row of the client's table, and the server spells っ + unit as `spellsSokuonThen`. -/
def inverseRowWhy (row : Row) : Bool :=
  beqStr row.1 [0x3093] ||
  memStr row.1 Chokan.Gen.KnownFindings.c17Alone ||
  (optEq (Romaji.assoc row.2.2 Chokan.Gen.Romaji.romanTable) row.1 &&
    (memStr row.1 Chokan.Gen.KnownFindings.c17Sokuon ||
      match serverConv (0x3063 :: row.1) with
      | some sp => spellsSokuonThen row.2.2 sp
      | none => false))

theorem optEq_iff {a : Option Str} {b : Str} : optEq a b = true ↔ a = some b := by
  cases a <;> simp [optEq, beqStr_iff]

open Chokan.Gen.Romaji Chokan.Props.C19 in
theorem clientConv_sokuonThen {a h sp : Str} (ha : Romaji.assoc a romanTable = some h)
    (hsp : spellsSokuonThen a sp = true) : C19.clientConv sp = some (0x3063 :: h) := by
  have hah : C19.clientConv a = some h := C19_table _ (Romaji.assoc_mem ha)
  simp only [spellsSokuonThen, Bool.and_eq_true, Bool.or_eq_true, beqStr_iff, optEq_iff,
    Bool.not_eq_true'] at hsp
  rcases hsp with hd | ⟨⟨hsplit, hk⟩, hns⟩
  · cases a with
    | nil => cases hd
    | cons c t =>
      simp only [Bool.and_eq_true, beqStr_iff] at hd
      rw [hd.2]
      exact (C19_sokuon c ((Romaji.memNat_iff c _).1 hd.1) t).trans (by rw [hah]; rfl)
  · rw [hsplit] at hns ⊢
    exact (Romaji.conv_key_append keys_nonempty keys_prefixFree bound_covers_keys (Romaji.assoc_mem hk) a hns).trans
      (by rw [show Romaji.conv _ _ _ a = some h from hah]; rfl)

/-- `inverseRowWhy` is sufficient for `inverseRowOk`.  (`clientConv` here and `C19.clientConv` unfold to the same term:
what C19 proves of the one is used of the other.) -/
theorem inverseRowOk_of_why (row : Row) (h : inverseRowWhy row = true) : inverseRowOk row = true := by
  simp only [inverseRowWhy, Bool.or_eq_true, Bool.and_eq_true, optEq_iff] at h
  simp only [inverseRowOk, Bool.or_eq_true, Bool.and_eq_true, optEq_iff]
  rcases h with h | ⟨ha, h⟩
  · exact Or.inl h
  · refine Or.inr ⟨C19.C19_table _ (Romaji.assoc_mem ha), h.imp id fun hs => ?_⟩
    split at hs
    · next sp hsp => rw [hsp]; exact clientConv_sokuonThen ha hs
    · cases hs

/-- Each kana unit of the server's table is given a spelling that the client's own romaji rules
turn back into exactly that unit, alone and after a sokuon — all rows except the recorded findings. -/
theorem C17_client_inverse : table.all inverseRowOk = true :=
  List.all_eq_true.2 fun row hrow =>
    inverseRowOk_of_why row (List.all_eq_true.1 (by decide +kernel : table.all inverseRowWhy = true) row hrow)

/-- The server's spelling of the test strings used below, evaluated together: every evaluation of
`serverConv` sorts the table first, and one kernel run sorts it once. -/
theorem server_spellings :
    serverConv [0x3063, 0x306A] = some [110, 110, 97] ∧
    serverConv [0x3063, 0x3042] = some [120, 116, 117, 97] ∧
    serverConv [0x3076, 0x3063, 0x3075, 0x3047, 114] = some [98, 117, 102, 102, 101, 114] ∧
    serverConv [0x3042, 0x3063] = some [97, 120, 116, 117] ∧
    serverConv [0x30AB, 0x3099, 0x30C3, 0x30B3, 0x30A6] = some [103, 97, 107, 107, 111, 117] := by
  decide +kernel

/-- **The recorded findings are genuine**: without the exclusions the clause is false — the server
spells っな as "nna" and the client reads "nna" back as んあ (a doubled n is ん).  Kernel-evaluated witness;
the same unit is replayed on the implementation by the C17 check (D9).  (The vowel rows are not among
them: since 6487e3c a sokuon before a vowel is spelled "xtu", not by doubling the vowel, っあ ↦ "aa".) -/
theorem C17_client_inverse_false_for_sokuon_na :
    serverConv [0x3063, 0x306A] = some [110, 110, 97] ∧ clientConv [110, 110, 97] = some [0x3093, 0x3042] :=
  ⟨server_spellings.1, by decide +kernel⟩

/-- っあ is spelled "xtua" (the repair 6487e3c), which the client reads back as っあ. -/
theorem C17_sokuon_before_vowel :
    serverConv [0x3063, 0x3042] = some [120, 116, 117, 97] ∧ clientConv [120, 116, 117, 97] = some [0x3063, 0x3042] :=
  ⟨server_spellings.2.1, by decide +kernel⟩

/-- Katakana behaves as its hiragana: every row's katakana is the hiragana shifted by U+60. -/
theorem C17_katakana_rows : table.all (fun row => beqStr row.2.1 (row.1.map (· + 0x60))) = true :=
  List.all_eq_true.2 fun row hrow => (beqStr_iff _ _).2 (kata_table row (mem_sortTable.2 hrow)).2.2

example : serverConv [0x3076, 0x3063, 0x3075, 0x3047, 114] = some [98, 117, 102, 102, 101, 114] :=
  server_spellings.2.2.1   -- ぶっふぇr ↦ buffer
example : serverConv [0x3042, 0x3063] = some [97, 120, 116, 117] := server_spellings.2.2.2.1  -- あっ ↦ axtu

/-- **ASCII letters and digits stay in place and order**: for every input over the client's class, the
input's ASCII letters and digits, lower-cased, are a subsequence of the result (kana units only add
letters between them). -/
theorem C17_keeps_ascii (s out : Str) (hs : ∀ c ∈ s, Chokan.Gen.Romaji.clientClass c = true)
    (h : serverConv s = some out) : List.Sublist (asciiPart s) out := by
  have hs' := okChar_of_class hs
  exact convLoop_keeps_ascii hira_nonempty kana_columns s out ((convert_of_okChar table hs').symm.trans h)

/-- **The result is the concatenation of the results of its units**: the conversion of a non-empty
in-class input is the spelling of its first unit (the longest table unit at the head, a run of sokuon
doubling its first letter — `toRomaSequence`) followed by the conversion of the rest. -/
theorem C17_units (s : Str) (hs : ∀ c ∈ s, Chokan.Gen.Romaji.clientClass c = true) (hne : s ≠ []) :
    serverConv s = (serverConv (toRomaSequence (sortTable table) s).2).map
      ((toRomaSequence (sortTable table) s).1 ++ ·) := by
  have hs' := okChar_of_class hs
  unfold serverConv
  rw [convert_of_okChar table hs',
    convert_of_okChar table fun c hc => hs' c ((toRomaSequence_suffix _ s).subset hc)]
  cases s with
  | nil => exact absurd rfl hne
  | cons a t => exact convLoop_cons hira_nonempty a t

/-- **Katakana behaves as its hiragana**: replacing every hiragana of an in-class input by its katakana
gives exactly the same result (string level, every length). -/
theorem C17_katakana (s : Str) (hs : ∀ c ∈ s, Chokan.Gen.Romaji.clientClass c = true) :
    serverConv (s.map toKata) = serverConv s :=
  convert_toKata table kata_table single_kana (okChar_of_class hs)

/-- **NFD-decomposed input behaves as the composed input**, in hiragana and in katakana (the server
normalises to NFC first; `nfdKana` is the canonical decomposition on the kana block). -/
theorem C17_nfd (s : Str) (hs : ∀ c ∈ s, Chokan.Gen.Romaji.clientClass c = true) :
    serverConv (nfdKana s) = serverConv s ∧ serverConv (nfdKana (s.map toKata)) = serverConv s := by
  have hs' := okChar_of_class hs
  refine ⟨convert_nfd table fun c hc => okChar_isMark (hs' c hc), ?_⟩
  rw [← C17_katakana s hs]
  exact convert_nfd table (List.forall_mem_map.2 fun c hc => toKata_isMark (hs' c hc))

/-- Non-vacuity: がっこう in katakana and decomposed (カ+゛ ッ コ ウ) converts like the hiragana. -/
example : nfdKana ([0x304C, 0x3063, 0x3053, 0x3046].map toKata) = [0x30AB, 0x3099, 0x30C3, 0x30B3, 0x30A6] ∧
    serverConv [0x30AB, 0x3099, 0x30C3, 0x30B3, 0x30A6] = some [103, 97, 107, 107, 111, 117] :=
  ⟨by decide +kernel, server_spellings.2.2.2.2⟩

end Chokan.Props.C17
