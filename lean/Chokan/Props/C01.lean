/-
C01 — every candidate re-reads to exactly the input; only a leading run is converted.

Model: Chokan.Model.Kkc.  Proof: the lattice invariant through the five construction passes and the
forward pass (Lemmas/KkcLattice, Lemmas/KkcForward), `previous`-linked chains through the A* loop using only
that the heap returns what was put in (Lemmas/KkcSearch), and the tiling of a bos→eos chain (Lemmas/KkcTiling).
`C01` holds for every score table (`Tables`), not only the regenerated ones.
-/
import Chokan.Gen.Kkc
import Chokan.Lemmas.KkcTiling

namespace Chokan.Props.C01
open Chokan.Kkc Chokan.Dic

/-- **C01.** For every well-formed dictionary (every word stored under its own non-empty reading — true of
every dictionary the builder and the server's updater produce: C11_sound), every non-empty input, context,
learned-count state, `n` and search budget, each returned candidate is `bos :: mid ++ [eos]` where
 * `mid` is non-empty and consists of lattice nodes,
 * the readings of `mid` concatenated are exactly the input,
 * the candidate text is the concatenation of the written forms of `mid`,
 * every node of `mid` except possibly the last is a dictionary word (only the tail may be unconverted),
 * the first node of `mid` is a dictionary word (conversion starts at the first character). -/
theorem C01 (t : Tables) (input : Str) (d : Dict) (ctx : Ctx) (f : Freq) (n fuel : Nat) (cs : List Cand)
    (hd : Dict.WF d) (hin : input ≠ []) (h : getCandidates t input d ctx f n fuel = some cs) :
    ∀ c ∈ cs, ∃ mid : List Node, c.chain = Node.bos :: (mid ++ [Node.eos]) ∧ mid ≠ [] ∧
      readings mid = input ∧ c.text = (mid.map Node.text).flatten ∧
      (∀ m ∈ mid.dropLast, isWord m = true) ∧ (∃ hd tl, mid = hd :: tl ∧ isWord hd = true) ∧
      (∀ m ∈ mid, m ≠ .bos ∧ m ≠ .eos) := by
  intro c hc
  obtain ⟨_, _, hall⟩ := getCandidates_tiles hd hin h
  obtain ⟨mid, hch, hne, hread, hnodes, hwords, hfirst⟩ := hall c hc
  refine ⟨mid, hch, hne, hread, ?_, hwords, hfirst, fun m hm => ?_⟩
  · simp [Cand.text, hch, Node.text]
  · have hok := (hnodes m hm).2
    constructor <;> (intro he; subst he; exact hok)

/-- The candidate text is the concatenation of the parts' written forms (by definition of `Display`). -/
theorem C01_text (c : Cand) : c.text = (c.chain.map Node.text).flatten := rfl

/-- The hypothesis of `C01` is met: words found by a look-up carry exactly the looked-up key as reading. -/
theorem C01_lookup_reading (d : Dict) (h : Dict.WF d) (key : Str) (w : Word) :
    (w ∈ lookup d.stdTrie d.std key → w.reading = key ∧ key ≠ []) ∧
    (w ∈ lookup d.ancTrie d.anc key → w.reading = key ∧ key ≠ []) :=
  ⟨lookup_reading h.1, lookup_reading h.2⟩

/-- Non-vacuity: the repository's own example sentence with its test dictionary (車 / 来る / 繰る, まで, で). -/
def exTables : Tables :=
  { wordEdges := Chokan.Gen.Kkc.wordEdges, virtEdges := Chokan.Gen.Kkc.virtEdges, headEdges := Chokan.Gen.Kkc.headEdges,
    mergeHead := Chokan.Gen.Kkc.mergeHead, properBonus := Chokan.Gen.Kkc.properBonus }
def exDict : Dict :=
  { std := [([0x304F, 0x308B, 0x307E], [⟨[0x8ECA], [0x304F, 0x308B, 0x307E], .noun .common⟩])],
    stdTrie := [[0x304F, 0x308B, 0x307E]],
    anc := [([0x3067], [⟨[0x3067], [0x3067], .particle .case⟩])], ancTrie := [[0x3067]] }
example : Dict.WF exDict := by
  unfold Dict.WF
  decide
example : (getCandidates exTables [0x304F, 0x308B, 0x307E, 0x3067] exDict .normal [] 3 100).map (·.map Cand.text) =
    some [[0x8ECA, 0x3067]] := by decide +kernel

end Chokan.Props.C01
