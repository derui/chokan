/-
C09 — a crash at any instant of a save never destroys or disables the user's data.

Model: Chokan.Model.Runtime (file contents old/new/torn/empty/absent, process death at every operation
boundary and inside every write).  Data: Chokan.Gen.Server.saveOps, the ordered file operations of
`save_user_dictionary`, regenerated on every run.  Assumed: rename is atomic, a completed write is
durable (process death, not power loss).
-/
import Chokan.Model.Runtime
import Chokan.Lemmas.SaveCrash

namespace Chokan.Props.C09
open Chokan.Runtime Chokan.Gen.Server

/-- At whatever instant the process dies, each of the two data files holds a complete version
(the previously saved one or the new one), so the next start restores both and keeps saving. -/
theorem C09 : (crashStates saveOps).all startupOk = true := by decide +kernel

/-- A save that is not interrupted ends with the new version of both files. -/
theorem C09_complete_save :
    (let (a, b) := splitOps saveOps
     (finalOf ⟨.old, .absent⟩ a).file = .new ∧ (finalOf ⟨.old, .absent⟩ b).file = .new) := by decide

/-- The crash points enumerated are not vacuous: there are states strictly inside the save. -/
theorem C09_nonvacuous : 10 ≤ (crashStates saveOps).length := by decide +kernel

/-- Why this matters: were a file to be found incomplete, start-up would silently continue with default
data and without a save directory (main.rs) — that branch is what `C09` shows unreachable by a crash. -/
theorem C09_fallback_is_silent : restoreFailureDisablesSaving = true := by decide +kernel

/-- All that the theorems below use of the extracted `saveOps`: temporary sibling, then rename, once for each file. -/
theorem saveOps_split : splitOps saveOps = (fileOps, fileOps) := by decide

/-- Every state a save can start in after any past: each data file complete (previous or new version),
its temporary sibling in *any* condition (absent, empty, torn, or a complete stale copy). -/
def startStates : List Fs :=
  let cs : List Content := [.old, .new, .torn, .empty, .absent]
  let files : List FileState := [Content.old, Content.new].flatMap fun f => cs.map fun t => ⟨f, t⟩
  files.flatMap fun a => files.map fun b => ⟨a, b⟩

def goodStart (fs : Fs) : Bool := restorable fs.freq.file && restorable fs.dic.file

theorem mem_startStates {fs : Fs} : fs ∈ startStates ↔ goodStart fs = true :=
  (mem_startList [.old, .new] fs).trans (by simp [goodStart, restorable])

theorem startStates_complete (fs : Fs) (h : goodStart fs = true) : fs ∈ startStates := mem_startStates.2 h

/-- From every such start — stale or torn temporary files included — a crash at any instant of the save
leaves both data files complete, and a completed save leaves the new version of both with no temporary
file behind. -/
theorem C09_from_any_leftover :
    startStates.all (fun st =>
      (crashStatesFrom st saveOps).all startupOk &&
      decide ((completeFrom st saveOps).freq = ⟨.new, .absent⟩ ∧ (completeFrom st saveOps).dic = ⟨.new, .absent⟩)) = true := by
  simp only [List.all_eq_true, Bool.and_eq_true, completeFrom_eq saveOps_split, decide_eq_true_eq, and_self, and_true]
  exact fun st hst x hx => by
    simpa [startupOk] using
      crash_closed saveOps_split (P := restorable) rfl (by simpa [goodStart] using mem_startStates.1 hst) hx

/-- The file system after a history of saves, each completed or crashed at some instant. -/
inductive Reachable : Fs → Prop
  | start (fs : Fs) : goodStart fs = true → Reachable fs
  | crashed (fs fs' : Fs) : Reachable fs → fs' ∈ crashStatesFrom fs saveOps → Reachable fs'
  | completed (fs : Fs) : Reachable fs → Reachable (completeFrom fs saveOps)

/-- **At whatever instants the process dies, in any history of saves and restarts, both data files hold a
complete version** — so every start restores both and periodic saving keeps working: the next completed
save again ends with the new version of both files. -/
theorem C09_history (fs : Fs) (h : Reachable fs) :
    startupOk fs = true ∧
    (completeFrom fs saveOps).freq = ⟨.new, .absent⟩ ∧ (completeFrom fs saveOps).dic = ⟨.new, .absent⟩ := by
  refine ⟨?_, by simp [completeFrom_eq saveOps_split]⟩
  simp only [startupOk, Bool.and_eq_true]
  induction h with
  | start fs h => simpa [goodStart] using h
  | crashed fs fs' _ hmem ih => exact crash_closed saveOps_split rfl ih hmem
  | completed fs _ _ => simp [completeFrom_eq saveOps_split, restorable]

/-- every state a save can start in when a data file may not exist yet: each data file the previous version, the new one or
**absent**, its temporary sibling in any condition -/
def startStatesFresh : List Fs :=
  let cs : List Content := [.old, .new, .torn, .empty, .absent]
  let files : List FileState := [Content.old, Content.new, Content.absent].flatMap fun f => cs.map fun t => ⟨f, t⟩
  files.flatMap fun a => files.map fun b => ⟨a, b⟩

/-- what the save started with (possibly nothing), or the new version — never a torn or empty file, and never *nothing*
where there was something -/
def keeps (st x : FileState) : Bool := x.file = st.file || x.file = .new

/-- **The first save is crash-safe too**: from every such start, a crash at any instant leaves each data file as the
save found it (a complete version, or still absent: start-up then takes the defaults and keeps the save directory) or
complete and new; a completed save leaves the new version of both and no temporary file. -/
theorem C09_first_save :
    startStatesFresh.all (fun st =>
      (crashStatesFrom st saveOps).all (fun x => keeps st.freq x.freq && keeps st.dic x.dic) &&
      decide ((completeFrom st saveOps).freq = ⟨.new, .absent⟩ ∧ (completeFrom st saveOps).dic = ⟨.new, .absent⟩)) = true := by
  simp only [List.all_eq_true, Bool.and_eq_true, completeFrom_eq saveOps_split, decide_eq_true_eq, and_self, and_true, keeps,
    Bool.or_eq_true]
  exact fun st _ x hx => file_of_crash saveOps_split hx

/-- a data file that start-up can take: complete (previous or new version) or never saved -/
def usable (c : Content) : Bool := c = .old || c = .new || c = .absent

def goodStartFresh (fs : Fs) : Bool := usable fs.freq.file && usable fs.dic.file

theorem startStatesFresh_complete (fs : Fs) (h : goodStartFresh fs = true) : fs ∈ startStatesFresh :=
  (mem_startList [.old, .new, .absent] fs).2 (by simpa [goodStartFresh, usable, or_assoc] using h)

/-- the file system after a history of saves — completed or crashed at some instant — that begins in a directory where
files may never have been saved -/
inductive ReachableFresh : Fs → Prop
  | start (fs : Fs) : goodStartFresh fs = true → ReachableFresh fs
  | crashed (fs fs' : Fs) : ReachableFresh fs → fs' ∈ crashStatesFrom fs saveOps → ReachableFresh fs'
  | completed (fs : Fs) : ReachableFresh fs → ReachableFresh (completeFrom fs saveOps)

/-- **From a fresh directory too, whatever the history of completed and crashed saves**: no data file is ever torn or
empty (start-up takes it, or the defaults when it was never saved, and keeps the save directory), and the next completed
save ends with the new version of both files and no temporary file. -/
theorem C09_history_fresh (fs : Fs) (h : ReachableFresh fs) :
    goodStartFresh fs = true ∧
    (completeFrom fs saveOps).freq = ⟨.new, .absent⟩ ∧ (completeFrom fs saveOps).dic = ⟨.new, .absent⟩ := by
  refine ⟨?_, by simp [completeFrom_eq saveOps_split]⟩
  simp only [goodStartFresh, Bool.and_eq_true]
  induction h with
  | start fs h => simpa [goodStartFresh] using h
  | crashed fs fs' _ hmem ih => exact crash_closed saveOps_split rfl ih hmem
  | completed fs _ _ => simp [completeFrom_eq saveOps_split, usable]

end Chokan.Props.C09
