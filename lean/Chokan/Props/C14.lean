/-
C14 — concurrent clients never deadlock and see sequentially explainable states.

Lock order: Chokan.Gen.Server.lockEdges (every nested `held → acquired` pair of `.lock()` calls over all RPC handlers
and background tasks), regenerated on every run. Sequential explanation: histories of atomic steps (Model/Server).
Then the same at the granularity of the code: every interleaving of the extracted event lists keeps the lock discipline
and gets nobody stuck (Model/Conc, Lemmas/Conc), and with the data each handler run alone is the atomic step and
critical sections are isolated (Model/Fine, Lemmas/Fine, Lemmas/FineSess). That each modelled step is one critical
section is validated by the concurrent driver against the real server (partial).
-/
import Chokan.Model.Runtime
import Chokan.Model.Server
import Chokan.Lemmas.Conc
import Chokan.Lemmas.Fine
import Chokan.Lemmas.FineSess
import Chokan.Lemmas.ServerStep

namespace Chokan.Props.C14
open Chokan.Runtime Chokan.Gen.Server

/-- Every nested acquisition in the code goes strictly upwards in one fixed order of the locks. -/
theorem C14_lock_order : edgesRespectRank lockEdges = true := by decide

/-- Generic: if every thread waits only for a lock ranked above the one it holds, there is no cycle
of threads each waiting for a lock held by the next one. -/
theorem C14_no_deadlock (rank : Lock → Nat) (k : Nat) (hk : 0 < k) (holds waits : Nat → Lock)
    (hup : ∀ i, i < k → rank (holds i) < rank (waits i))
    (hcyc : ∀ i, i < k → waits i = holds ((i + 1) % k)) : False := by
  -- once round the cycle the rank has grown by `k`
  have key : ∀ j, j ≤ k → rank (holds 0) + j ≤ rank (holds (j % k)) := by
    intro j
    induction j with
    | zero => intro _; rw [Nat.zero_mod]; exact Nat.le_refl _
    | succ j ih =>
      intro hj
      have h1 := ih (Nat.le_of_succ_le hj)
      have h2 := hup j hj
      rw [Nat.mod_eq_of_lt hj] at h1
      rw [hcyc j hj] at h2
      omega
  have := key k (Nat.le_refl k)
  rw [Nat.mod_self] at this
  omega

/-- … instantiated with the order the code respects: no reachable waiting cycle over its locks. -/
theorem C14_no_deadlock_here (k : Nat) (hk : 0 < k) (holds waits : Nat → Lock)
    (hedge : ∀ i, i < k → (holds i, waits i) ∈ lockEdges)
    (hcyc : ∀ i, i < k → waits i = holds ((i + 1) % k)) : False := by
  apply C14_no_deadlock lockRank k hk holds waits _ hcyc
  intro i hi
  have := List.all_eq_true.1 C14_lock_order _ (hedge i hi)
  simpa using this

open Chokan.Server Chokan.Kkc Chokan.Dic in
/-- **A registered entry is never half-visible.** In every history the running dictionary changes only in
updater steps, and an updater step adds *all* conjugated forms of one entry at once: no state of any
history — hence no conversion answer — sees some of an entry's forms without the others. -/
theorem C14_dict_changes_by_whole_entries (c : Cfg) (s : State) (op : Op) :
    (stepOp c s op).dict = s.dict ∨
    ∃ e ws, s.pending.head? = some e ∧ entryToWords c.conj c.adj c.adjv e = some ws ∧
      (stepOp c s op).dict = ws.foldl (addStdWord c.alpha) s.dict := by
  by_cases h : op = .apply
  · subst h
    rcases stepOp_apply c s with h | ⟨e, _, ws, hp, hws, h⟩ <;> rw [h]
    · exact .inl rfl
    · exact .inr ⟨e, ws, by rw [hp]; rfl, hws, rfl⟩
  · obtain ⟨_, _, _, _, _, h⟩ := stepOp_client c s h
    exact .inl (by rw [h])

open Chokan.Server Chokan.Kkc Chokan.Dic in
/-- **Every conversion answer is the sequential answer for the state of its own step**: it is a function
of the dictionary and the learned counts of the state reached by the steps before it (every earlier
update, no later one), whatever sessions, queued entries or saved files exist. -/
theorem C14_answer_is_sequential (c : Cfg) (s0 : State) (before : List Op) (ctx : Ctx) (input : Str) :
    (convert c (runOps c s0 before) ctx input).map (·.2.2) =
      getCandidates c.tables input (runOps c s0 before).dict ctx (toKkcFreq (runOps c s0 before).freq)
        c.nCandidates c.fuel :=
  convert_answer ..

open Chokan.Conc in
/-- Every control-flow path of every RPC handler and of every background loop, as extracted from the code, keeps
the lock discipline under the one order `lockRank`: locks are taken in ascending order only and released by
their holder, nothing waits for a message (or sends on a bounded channel) while it holds a lock, a handler
never waits for a message at all, and every path ends holding nothing. -/
theorem C14_conc_discipline :
    (handlerPaths.all fun h => h.2.all fun p => disc lockRank chanUnbounded [] p && noWait chanUnbounded p) = true ∧
    (taskPaths.all fun ps => ps.all fun p => disc lockRank chanUnbounded [] p) = true := by decide +kernel

open Chokan.Conc in
theorem conc_inv (reqs : List (List Ev)) (hreq : ∀ p ∈ reqs, ∃ h ∈ handlerPaths, p ∈ h.2)
    (capOf : Chan → Nat) (sched : List (Nat × Nat)) :
    Inv lockRank chanUnbounded (run (initSt chanUnbounded capOf reqs taskPaths) sched) ∧
    ReqNoWait chanUnbounded (run (initSt chanUnbounded capOf reqs taskPaths) sched) := by
  have hd := C14_conc_discipline
  simp only [List.all_eq_true, Bool.and_eq_true] at hd
  have hp : ∀ p ∈ reqs, disc lockRank chanUnbounded [] p = true ∧ noWait chanUnbounded p = true := fun p hp =>
    let ⟨h, hh, hph⟩ := hreq p hp
    hd.1 h hh p hph
  exact ⟨Inv_run sched (Inv_init (fun p h => (hp p h).1) hd.2),
    ReqNoWait_run sched (ReqNoWait_init fun p h => (hp p h).2)⟩

theorem lockRank_le (l : Lock) : lockRank l ≤ 1 := by cases l <;> decide

open Chokan.Conc in
/-- **Mutual exclusion** in every reachable state of every interleaving: no lock has two holders. -/
theorem C14_conc_mutex (reqs : List (List Ev)) (hreq : ∀ p ∈ reqs, ∃ h ∈ handlerPaths, p ∈ h.2)
    (capOf : Chan → Nat) (sched : List (Nat × Nat)) (i j : Nat) (ti tj : Thread) (l : Lock)
    (hi : (run (initSt chanUnbounded capOf reqs taskPaths) sched).threads[i]? = some ti)
    (hj : (run (initSt chanUnbounded capOf reqs taskPaths) sched).threads[j]? = some tj)
    (hli : l ∈ ti.held) (hlj : l ∈ tj.held) : i = j :=
  (conc_inv reqs hreq capOf sched).1.excl i j ti tj l hi hj hli hlj

open Chokan.Conc in
/-- **No deadlock, operationally.** For any number of concurrent requests of any kinds (each following any
control-flow path of its handler), together with the background loops, and for every schedule: in the state
reached, every request that is not finished either can take its next event, or is waiting for a lock while
some thread that holds a lock can take *its* next event.  (A thread that holds a lock never waits for a
message — `C14_conc_discipline` — so critical sections always run to their release.) -/
theorem C14_conc_requests_never_stuck (reqs : List (List Ev)) (hreq : ∀ p ∈ reqs, ∃ h ∈ handlerPaths, p ∈ h.2)
    (capOf : Chan → Nat) (sched : List (Nat × Nat)) (t : Thread)
    (ht : t ∈ (run (initSt chanUnbounded capOf reqs taskPaths) sched).threads)
    (hb : t.body = none) (hunf : t.rest ≠ []) :
    enabled (run (initSt chanUnbounded capOf reqs taskPaths) sched) t = true ∨
    ((∃ l r, t.rest = .acq l :: r) ∧
      ∃ tj ∈ (run (initSt chanUnbounded capOf reqs taskPaths) sched).threads,
        tj.held ≠ [] ∧ enabled (run (initSt chanUnbounded capOf reqs taskPaths) sched) tj = true) := by
  obtain ⟨hinv, hnw⟩ := conc_inv reqs hreq capOf sched
  exact request_progress hinv hnw lockRank_le ht hb hunf

open Chokan.Conc in
/-- The same for the background loops: whichever thread waits for a lock, some lock holder can move. -/
theorem C14_conc_lock_waiters_progress (reqs : List (List Ev)) (hreq : ∀ p ∈ reqs, ∃ h ∈ handlerPaths, p ∈ h.2)
    (capOf : Chan → Nat) (sched : List (Nat × Nat)) (t : Thread) (l : Lock) (r : List Ev)
    (ht : t ∈ (run (initSt chanUnbounded capOf reqs taskPaths) sched).threads) (hr : t.rest = .acq l :: r) :
    enabled (run (initSt chanUnbounded capOf reqs taskPaths) sched) t = true ∨
    ∃ tj ∈ (run (initSt chanUnbounded capOf reqs taskPaths) sched).threads,
      tj.held ≠ [] ∧ enabled (run (initSt chanUnbounded capOf reqs taskPaths) sched) tj = true :=
  -- `wait_chain_ends` ignores `n` (the second `1`), `ht` and the bound on `n`
  wait_chain_ends (conc_inv reqs hreq capOf sched).1 1 lockRank_le 1 t l r ht hr (Nat.sub_le _ _)

open Chokan.Conc in
/-- **A registered entry is never half-visible (code shape).** On every path of every background loop the trie
and map insertions happen under the dictionary lock, and the whole loop over the entry's conjugated forms lies
inside one critical section (the lock is neither released nor re-taken between the loop's start and end); every
conversion computes its answer while it holds the dictionary and the learned counts. -/
theorem C14_conc_merge_one_section :
    (taskPaths.all fun ps => ps.all fun p =>
      actUnder .trieInsert .dictionary p && actUnder .mapInsert .dictionary p &&
      (!(p.contains (.act .mapInsert)) ||
        (occursBefore (.act .loopStart) (.act .mapInsert) p && occursBefore (.act .mapInsert) (.act .loopEnd) p &&
         sameSection (.act .loopStart) (.act .loopEnd) .dictionary p))) = true ∧
    ((convertingPaths handlerPaths).all fun p => actUnder .compute .dictionary p && actUnder .compute .userPref p) = true ∧
    (convertingPaths handlerPaths).length ≥ 2 := by decide +kernel

/-- non-vacuity: the two converting paths and the three of the confirmation in flight with the three background loops;
a conversion takes the dictionary and a confirmation the session store -/
example :
    let reqs := (Chokan.Conc.convertingPaths handlerPaths) ++ (Chokan.Conc.pathsOf "UpdateFrequency" handlerPaths)
    (∀ p ∈ reqs, ∃ h ∈ handlerPaths, p ∈ h.2) ∧ reqs.length = 5 ∧
    ((Chokan.Conc.run (Chokan.Conc.initSt chanUnbounded (fun _ => 0) reqs taskPaths) [(0, 0), (2, 0), (1, 0)]).threads.map
        (·.held)) = [[.dictionary], [], [.store], [], [], [], [], []] := by decide +kernel

open Chokan.Conc Chokan.Fine in
/-- The data-touching events of the extracted bodies are the ones the atomic steps of Model/Server are made of: a
converting handler computes, stores the session, answers; the confirmation (every conditional entered) pops, updates
the count, learns the compound, queues it, answers; a registration queues and answers; one updater iteration takes an
entry, records it, merges it; one saver iteration waits for the tick and saves.  And every action of every path runs
while the locks that protect its data are held. -/
theorem C14_fine_shapes :
    ((convertingPaths handlerPaths).all fun p => dataEvents p == [.act .compute, .act .addSession, .respond]) = true ∧
    (((handlerMain.filter (·.1 == "UpdateFrequency")).map (·.2)).all fun p =>
      dataEvents p == [.act .popSession, .act .updFreq, .act .updCompound, .send .entry, .respond]) = true ∧
    ((pathsOf "RegisterWord" handlerPaths).all fun p => dataEvents p == [.send .entry, .respond]) = true ∧
    ((taskMain.filter (·.contains (.recv .entry))).all fun p =>
      dataEvents p == [.recv .entry, .act .addEntry, .act .loopStart, .act .trieInsert, .act .mapInsert, .act .loopEnd]) = true ∧
    ((taskMain.filter (·.contains (.act .saveFiles))).all fun p => dataEvents p == [.recv .tick, .act .saveFiles]) = true ∧
    (handlerPaths.all fun h => h.2.all (guarded [])) = true ∧ (taskPaths.all fun ps => ps.all (guarded [])) = true ∧
    [(convertingPaths handlerPaths).length, ((handlerMain.filter (·.1 == "UpdateFrequency")).map (·.2)).length,
      (pathsOf "RegisterWord" handlerPaths).length, (taskMain.filter (·.contains (.recv .entry))).length,
      (taskMain.filter (·.contains (.act .saveFiles))).length] = [2, 1, 1, 1, 1] := by decide +kernel

open Chokan.Conc Chokan.Fine Chokan.Server Chokan.Kkc Chokan.Dic in
/-- **Each handler, run with nothing in between, is the atomic step of the server model** — so the histories of atomic
steps that C05, C06, C08, C14, C15 and C20 reason about are exactly the executions in which critical sections do not
overlap. (conversion) -/
theorem C14_fine_convert_is_atomic (c : Cfg) (p : List Ev) (hp : p ∈ convertingPaths handlerPaths)
    (s s' : State) (ctx : Ctx) (input : Str) (sid : Nat) (cs : List Cand) (h : convert c s ctx input = some (s', sid, cs)) :
    (runAlone c p { req := .conv ctx input } s).2 = s' ∧ (runAlone c p { req := .conv ctx input } s).1.cands = cs ∧
    (runAlone c p { req := .conv ctx input } s).1.stored = some ⟨sid, ctx, cs⟩ :=
  alone_convert (eq_of_beq (List.all_eq_true.1 C14_fine_shapes.1 p hp)) h

open Chokan.Conc Chokan.Fine Chokan.Server in
/-- (confirmation, registration, one updater iteration, one saver iteration) -/
theorem C14_fine_others_are_atomic (c : Cfg) (s : State) :
    (∀ p ∈ (handlerMain.filter (·.1 == "UpdateFrequency")).map (·.2), ∀ sid id now,
      (runAlone c p { req := .confirm sid id now } s).2 = confirmId c s sid id now) ∧
    (∀ p ∈ pathsOf "RegisterWord" handlerPaths, ∀ kind reading word,
      (runAlone c p { req := .register kind reading word } s).2 = (register c s kind reading word).getD s) ∧
    (∀ p ∈ taskMain.filter (·.contains (.recv .entry)),
      (∀ e, s.pending.head? = some e → (mergeEntry c s.dict e).isSome = true) →
      some (runAlone c p { req := .other } s).2 = applyEntry c s) ∧
    (∀ p ∈ taskMain.filter (·.contains (.act .saveFiles)), (runAlone c p { req := .other } s).2 = save c s) := by
  -- the clauses of `C14_fine_shapes` on the paths of the confirmation, the registration, the updater and the saver
  obtain ⟨_, hconf, hreg, hupd, hsave, _⟩ := C14_fine_shapes
  refine ⟨fun p hp sid id now => ?_, fun p hp kind reading word => ?_, fun p hp hok => ?_, fun p hp => ?_⟩
  · exact alone_confirm (eq_of_beq (List.all_eq_true.1 hconf p hp))
  · exact alone_register (eq_of_beq (List.all_eq_true.1 hreg p hp))
  · exact alone_apply (eq_of_beq (List.all_eq_true.1 hupd p hp)) hok
  · exact alone_save (eq_of_beq (List.all_eq_true.1 hsave p hp))

open Chokan.Conc Chokan.Fine in
/-- **Critical sections are isolated, under every interleaving.**  Any number of concurrent requests (paths of the
extracted handlers) with the background loops, any schedule of the model with data: while one thread holds a lock, no
other thread is at an action on the data that lock protects — the sections of one lock never overlap, so what a
thread reads and writes under a lock is not touched by anyone else until it releases it. -/
theorem C14_fine_isolation (c : Chokan.Server.Cfg) (reqs : List (List Ev × Req)) (hreq : ∀ r ∈ reqs, ∃ h ∈ handlerPaths, r.1 ∈ h.2)
    (capOf : Chan → Nat) (s0 : Chokan.Server.State) (sched : List (Nat × Nat)) (i j : Nat) (ti tj : Thread)
    (hi : (frun c (finit chanUnbounded capOf reqs taskPaths s0) sched).st.threads[i]? = some ti)
    (hj : (frun c (finit chanUnbounded capOf reqs taskPaths s0) sched).st.threads[j]? = some tj) (hij : i ≠ j)
    (l : Lock) (hl : l ∈ ti.held) (b : Act) (r : List Ev) (hr : tj.rest = .act b :: r) : l ∉ protects b := by
  rw [frun_st] at hi hj
  -- the two `guarded` clauses of `C14_fine_shapes`: every path of a handler, every path of a background loop
  obtain ⟨_, _, _, _, _, hgh, hgt, _⟩ := C14_fine_shapes
  have hreq' : ∀ p ∈ reqs.map (·.1), ∃ h ∈ handlerPaths, p ∈ h.2 := List.forall_mem_map.2 hreq
  have hinit := (conc_inv _ hreq' capOf []).1
  have hgreq : ∀ p ∈ reqs.map (·.1), guarded [] p = true := by
    intro p hp
    obtain ⟨h, hh, hph⟩ := hreq' p hp
    exact List.all_eq_true.1 (List.all_eq_true.1 hgh h hh) p hph
  have hginit : GInv (initSt chanUnbounded capOf (reqs.map (·.1)) taskPaths) :=
    GInv_init hgreq fun ps hps => List.all_eq_true.1 (List.all_eq_true.1 hgt ps hps)
  exact isolated (Inv_run sched hinit) (GInv_run sched hinit hginit) i j ti tj hi hj hij l hl b r hr


open Chokan.Conc Chokan.Fine Chokan.Server in
/-- **Under every interleaving (model with data): a registered entry is never half-visible and every answer is
sequential.**  One step of any thread leaves the running dictionary alone or merges *all* conjugated forms of one entry;
and what a conversion thread computes is `getCandidates` on the dictionary and the learned counts of the very state its
compute event runs in (it holds both locks: `C14_fine_shapes`, `C14_fine_isolation`), changing nothing. -/
theorem C14_fine_whole_entries_and_sequential_answers (c : Cfg) (d : FSt) (ik : Nat × Nat) :
    ((fstep c d ik).data.dict = d.data.dict ∨
      ∃ en, (fstep c d ik).data.dict = (mergeEntry c d.data.dict en).getD d.data.dict) ∧
    (∀ (l : Fine.Local) (ctx : Chokan.Kkc.Ctx) (input : Chokan.Dic.Str), headEv d.st ik.1 = some (.act .compute) →
      d.locals[ik.1]? = some l → l.req = Req.conv ctx input →
      ∃ l', (fstep c d ik).locals[ik.1]? = some l' ∧
        l'.cands = (Chokan.Kkc.getCandidates c.tables input d.data.dict ctx (toKkcFreq d.data.freq) c.nCandidates c.fuel).getD [] ∧
        (fstep c d ik).data = d.data) := by
  refine ⟨?_, fun l ctx input hh hl hr => ?_⟩ <;> unfold fstep
  · split
    · exact (effect_dict c _ _ d.data).imp_right fun ⟨en, _, _, h⟩ => ⟨en, h⟩
    · exact .inl rfl
  · simp only [hh, hl, effect_conv hr, List.getElem?_set_self (List.getElem?_eq_some_iff.1 hl).1]
    exact ⟨_, rfl, rfl, trivial⟩

end Chokan.Props.C14
