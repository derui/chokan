/-
C03 — conversion offers every matching dictionary word and only dictionary words.

Model: Chokan.Model.Kkc.  Soundness is proved for every candidate (`C03_sound`); completeness at the head
is proved at lattice level (`C03_head_word_is_node`) and at candidate level (`C03_complete_head`: with
the regenerated score tables the path word + rest is connectable, and the optimal search of C02 returns
it unless the list is cut at `n`), and likewise right after a leading prefix-affix
(`C03_complete_after_prefix`) for every word the engine's own connection rule lets follow a prefix.
-/
import Chokan.Gen.Kkc
import Chokan.Lemmas.KkcComplete
import Chokan.Lemmas.KkcCounts
import Chokan.Props.C02

namespace Chokan.Props.C03
open Chokan.Kkc Chokan.Dic

/-- Soundness of a look-up: a returned word is an entry of the map under the looked-up key, and the
trie reports that key. -/
theorem C03_lookup_sound (trie : List Str) (m : List (Str × List Word)) (key : Str) (w : Word)
    (h : w ∈ lookup trie m key) : key ∈ trie ∧ ∃ ws, (key, ws) ∈ m ∧ w ∈ ws :=
  lookup_sound trie m key w h

/-- A key the trie does not report yields no word (a trie false negative hides the entry: C04). -/
theorem C03_lookup_needs_trie (trie : List Str) (m : List (Str × List Word)) (key : Str)
    (h : key ∉ trie) : lookup trie m key = [] :=
  if_neg (mt (any_beqStr key trie).1 h)

/-- **Soundness.** Every converted word inside any candidate is an entry of the loaded dictionary
(standard or ancillary) stored under its own reading, reported present by the corresponding trie, and
that reading is exactly the stretch of the input the part covers. -/
theorem C03_sound (t : Tables) (input : Str) (d : Dict) (ctx : Ctx) (f : Freq) (n fuel : Nat) (cs : List Cand)
    (hd : Dict.WF d) (hin : input ≠ []) (h : getCandidates t input d ctx f n fuel = some cs) :
    ∀ c ∈ cs, ∀ m ∈ c.chain, ∀ e i w fw, m = Node.word e i w fw →
      ((w.reading ∈ d.stdTrie ∧ ∃ ws, (w.reading, ws) ∈ d.std ∧ w ∈ ws) ∨
       (w.reading ∈ d.ancTrie ∧ ∃ ws, (w.reading, ws) ∈ d.anc ∧ w ∈ ws)) ∧
      slice input (e + 1 - w.reading.length) e = w.reading := by
  intro c hc m hm e i w fw hmw
  obtain ⟨g0, hg0, hall⟩ := getCandidates_tiles hd hin h
  obtain ⟨mid, hch, _, _, hnodes, _, _⟩ := hall c hc
  subst hmw
  have hmmid : Node.word e i w fw ∈ mid := by
    rw [hch] at hm
    simpa using hm
  obtain ⟨hj, hok⟩ := hnodes _ hmmid
  have hsrc := (forwardDp_fromDict t input d ctx f hd g0 hg0).2 _ _ hj
  exact ⟨hsrc.imp (lookup_sound _ _ _ w) (lookup_sound _ _ _ w), hok.2.2.2⟩

/-- **Completeness at the head, lattice level.** Every word the standard dictionary (trie + map) returns
for a non-empty prefix of the input is a node of the lattice ending where that prefix ends. -/
theorem C03_head_word_is_node (t : Tables) (input : Str) (d : Dict) (ctx : Ctx) (g : Graph)
    (hg : fromInput t input d ctx = some g) (i : Nat) (hi : i < input.length) (w : Word)
    (hw : w ∈ lookup d.stdTrie d.std (slice input 0 i)) :
    ∃ l idx, g[i]? = some l ∧ Node.word i idx w (some 0) ∈ l := by
  obtain ⟨idx, h⟩ := (wordLattice_head_word t ctx hi hw).mono (fromInput_extends hg)
  obtain ⟨l, hl, hv⟩ := (mem_getD_iff g i _).1 h
  exact ⟨l, idx, hl, hv⟩

theorem offered_of_path (t : Tables) (input : Str) (d : Dict) (ctx : Ctx) (f : Freq) (n : Nat) (hn : 1 ≤ n)
    (hd : Dict.WF d) (x : Str)
    (hpath : ∀ g0, fromInput t input d ctx = some g0 → Offers t ctx (forwardDp t ctx f g0) x) :
    ∃ fuel0 R, ∀ fuel, fuel0 ≤ fuel →
      getCandidates t input d ctx f n fuel = some R ∧ (x ∈ R.map Cand.text ∨ R.length = n) := by
  obtain ⟨p, hch, hconn, rfl⟩ := hpath _ rfl
  obtain ⟨s, hs⟩ := (pathScore_some_iff t ctx f _).2 hconn
  obtain ⟨fuel0, R, hall⟩ := C02.C02_full t input d ctx f n hn hd _ rfl
  refine ⟨fuel0, R, fun fuel hf => ?_⟩
  obtain ⟨hget, _, _, _, hopt⟩ := hall fuel hf
  exact ⟨hget, (hopt p s hch hs).imp id And.left⟩

/-- **Completeness at the head, candidate level.**  With the score tables regenerated from the source,
for every input, well-formed dictionary, context, learned counts and `n ≥ 1`: for every independent
word the standard dictionary returns for a non-empty prefix `input[0..=i]`, the candidate list (the
same from some number of loop iterations on) contains that word's written form followed by the rest of
the input verbatim — unless the list is full (`n` entries), i.e. always in the untruncated list. -/
theorem C03_complete_head (input : Str) (d : Dict) (ctx : Ctx) (f : Freq) (n : Nat) (hn : 1 ≤ n)
    (hd : Dict.WF d) (i : Nat) (hi : i < input.length) (w : Word)
    (hw : w ∈ lookup d.stdTrie d.std (slice input 0 i)) (hind : w.speech.isAncillary = false) :
    ∃ fuel0 R, ∀ fuel, fuel0 ≤ fuel →
      getCandidates genTables input d ctx f n fuel = some R ∧
      (w.word ++ input.drop (i + 1) ∈ R.map Cand.text ∨ R.length = n) :=
  offered_of_path genTables input d ctx f n hn hd _ fun g0 hg0 =>
    paths_same genTables ctx (forwardDp_same genTables ctx f g0) (head_path input d ctx hd g0 hg0 i hi w hw hind)

/-- **Completeness right after a leading prefix, candidate level.**  With the regenerated tables: for a
prefix-affix `P` of the ancillary dictionary whose reading is `input[0..=k]` and an independent standard
word `w` whose reading is `input[k+1..=i]`, if the engine's own connection rule lets `w` follow a prefix
(`firstMatch2 prefix w.speech = some _`, i.e. `get_edge_score` is not "not connectable"), the candidate
list contains the prefix's written form, the word's written form and the rest of the input verbatim —
unless the list is full (`n` entries). -/
theorem C03_complete_after_prefix (input : Str) (d : Dict) (ctx : Ctx) (f : Freq) (n : Nat) (hn : 1 ≤ n)
    (hd : Dict.WF d) (k : Nat) (P : Word) (hP : P ∈ lookup d.ancTrie d.anc (slice input 0 k))
    (hPsp : P.speech = .affix .prefix) (i : Nat) (hki : k + 1 ≤ i) (hi : i < input.length) (w : Word)
    (hw : w ∈ lookup d.stdTrie d.std (slice input (k + 1) i)) (hind : w.speech.isAncillary = false)
    (x : Nat) (hconn : firstMatch2 (.affix .prefix) w.speech genTables.wordEdges = some x) :
    ∃ fuel0 R, ∀ fuel, fuel0 ≤ fuel →
      getCandidates genTables input d ctx f n fuel = some R ∧
      (P.word ++ w.word ++ input.drop (i + 1) ∈ R.map Cand.text ∨ R.length = n) :=
  offered_of_path genTables input d ctx f n hn hd _ fun g0 hg0 =>
    paths_same genTables ctx (forwardDp_same genTables ctx f g0)
      (prefix_path input d ctx hd g0 hg0 k P hP hPsp i hki hi w hw hind x hconn)

/-- The connection rule of the regenerated table: which parts of speech may follow a prefix. -/
theorem C03_prefix_connects (sp : Speech) :
    (firstMatch2 (.affix .prefix) sp genTables.wordEdges).isSome = true ↔
      (Chokan.Gen.Kkc.wordEdges.find? fun r => r.1.matches (.affix .prefix) && r.2.1.matches sp).any
        (fun r => r.2.2.isSome) = true := by
  show (firstMatch2 _ sp Chokan.Gen.Kkc.wordEdges).isSome = true ↔ _
  rw [firstMatch2_eq]
  cases Chokan.Gen.Kkc.wordEdges.find? fun r => r.1.matches (.affix .prefix) && r.2.1.matches sp <;> rfl

/-! ### non-vacuity: a concrete dictionary meets the hypotheses, and the kernel evaluates the list -/

def exW1 : Word := { word := [34442], reading := [12363], speech := .noun .common }     -- 蚊 / か
def exW2 : Word := { word := [39321], reading := [12363], speech := .noun .common }     -- 香 / か
def exDict : Dict := { std := [([12363], [exW1, exW2])], stdTrie := [[12363]], anc := [], ancTrie := [] }

example : Dict.WF exDict := by
  unfold Dict.WF
  decide

/-- Input かか: both homophones are offered, each followed by the rest of the input verbatim, best first. -/
example : (getCandidates genTables [12363, 12363] exDict .normal [] 5 100).map (List.map fun c => (c.text, c.score))
    = some [([34442, 12363], 1), ([39321, 12363], 1)] := by decide +kernel

end Chokan.Props.C03
