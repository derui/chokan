/-
C10 — The text dictionary format round-trips every entry and isolates bad lines.

Model: Chokan.Model.DicText (PEG of dic_grammer.rs as recursive functions; reader/writer of io.rs),
printing from Chokan.Model.Dic.  Data: Chokan.Gen.DicGrammar (character classes, ordered
alternatives, literals) and Chokan.Gen.Dic (Display names), regenerated on every run.
-/
import Chokan.Gen.Dic
import Chokan.Lemmas.DicText

namespace Chokan.Props.C10
open Chokan.Dic Chokan.DicText

def names := Chokan.Gen.Dic.simpleNames
def vsuf := Chokan.Gen.Dic.verbSuffix
def kc := Chokan.Gen.DicGrammar.kanaClass
def alts := Chokan.Gen.DicGrammar.speechAlts
def kata := Chokan.Gen.DicGrammar.katakanaClass

def allClasses : List VerbClass := [.godan, .yodan, .simoIchidan, .kamiIchidan, .simoNidan, .kamiNidan, .hen]

/-- The part-of-speech values the text format can express: the 18 non-verb values with a printed
name and every conjugation class × every row letter the grammar admits. -/
def storableSpeeches : List Speech :=
  names.map (·.1) ++ allClasses.flatMap fun cls => kata.map fun k => Speech.verb cls [k]

def pr (sp : Speech) : Str := printSpeech names vsuf sp
def printE (e : Entry) : Str := printEntry names vsuf e
def parseL (l : Str) : Option (List Entry) := parseLine kc alts kata l

/-- What the property quantifies over: any kana reading, any stem without blank/TAB, any of the
116 part-of-speech values. -/
structure Storable (e : Entry) : Prop where
  reading_ne : e.stemReading ≠ []
  reading_kana : ∀ c ∈ e.stemReading, isKana kc c = true
  stem_ne : e.stem ≠ []
  stem_nospace : ∀ c ∈ e.stem, isNoSpace c = true
  speech_ok : e.speech ∈ storableSpeeches

/-- "Any kana reading": the grammar's reading class contains every hiragana from ぁ (U+3041) to
ん (U+3093) — so `Storable` is not silently narrowed when the class in the source changes. -/
theorem C10_kana_class (c : Nat) (h1 : 0x3041 ≤ c) (h2 : c ≤ 0x3093) : isKana kc c = true := by
  -- 83 = 0x3093 - 0x3041 + 1
  have h : (List.range 83).all (fun i => isKana kc (0x3041 + i)) = true := by decide +kernel
  have := List.all_eq_true.1 h (c - 0x3041) (List.mem_range.2 (by omega))
  rwa [show 0x3041 + (c - 0x3041) = c by omega] at this

theorem C10_speech_count : storableSpeeches.length = 116 := by decide +kernel

theorem speechChecks : ∀ sp ∈ storableSpeeches, parseAlts kata alts (pr sp ++ [47]) = some (sp, [47]) := by
  decide +kernel

theorem avoids_slash : Avoids 47 alts kata := by decide +kernel

/-- Each of the 116 printed names, between slashes and followed by anything, is read back as
exactly that part of speech (this is where the order of the PEG alternatives matters). -/
theorem C10_speech (sp : Speech) (h : sp ∈ storableSpeeches) (rest : Str) :
    parseSpeech alts kata (47 :: (pr sp ++ 47 :: rest)) = some (sp, 47 :: rest) :=
  parseSpeech_closed alts kata avoids_slash (pr sp) sp (speechChecks sp h) rest

theorem parseAlts_nil : parseAlts kata alts [] = none := by decide +kernel
theorem kana_not_tab : isKana kc 9 = false := by decide +kernel
theorem kana_not_semicolon : isKana kc 59 = false := by decide +kernel
theorem kana_not_newline : isKana kc 10 = false := by decide +kernel

/-- A multi-speech line reads as one entry per speech, in order. -/
theorem C10_multi (reading stem : Str) (sps : List Speech)
    (hr : reading ≠ []) (hrk : ∀ c ∈ reading, isKana kc c = true)
    (hs : stem ≠ []) (hsn : ∀ c ∈ stem, isNoSpace c = true)
    (hsp : sps ≠ []) (hall : ∀ sp ∈ sps, sp ∈ storableSpeeches) :
    parseL (reading ++ 9 :: (stem ++ 9 :: (printSpeechs names vsuf sps ++ [47]))) =
      some (sps.map fun sp => ⟨stem, reading, sp⟩) := by
  have h1 := spanClass_append (isKana kc) reading 9
    (stem ++ 9 :: (printSpeechs names vsuf sps ++ [47])) hrk kana_not_tab
  have h2 := spanClass_append isNoSpace stem 9 (printSpeechs names vsuf sps ++ [47]) hsn (by decide)
  have h3 := parseSpeechStar_print alts kata names vsuf avoids_slash parseAlts_nil sps
    ((printSpeechs names vsuf sps ++ [47]).length + 1)
    (fun sp h => speechChecks sp (hall sp h))
    (by rw [List.length_append]; omega)
  have h4 : parseSpeechs alts kata (printSpeechs names vsuf sps ++ [47]) = some (sps, []) := by
    unfold parseSpeechs
    rw [h3]
    cases sps with
    | nil => exact absurd rfl hsp
    | cons a t => rfl
  obtain ⟨a, t, rfl⟩ := List.exists_cons_of_ne_nil hr
  obtain ⟨b, u, rfl⟩ := List.exists_cons_of_ne_nil hs
  have ha : a ≠ 59 := by
    intro h; subst h
    have := hrk 59 List.mem_cons_self
    rw [kana_not_semicolon] at this; cases this
  unfold parseL parseLine
  split
  · next heq => simp at heq; exact absurd heq.1 ha
  · unfold parseEntry
    rw [h1]; simp only
    rw [h2]; simp only
    rw [h4]

/-- Every storable entry, printed, is read back as exactly that entry. -/
theorem C10_entry (e : Entry) (h : Storable e) : parseL (printE e) = some [e] := by
  have := C10_multi e.stemReading e.stem [e.speech] h.reading_ne h.reading_kana h.stem_ne h.stem_nospace
    (List.cons_ne_nil _ _) (List.forall_mem_singleton.2 h.speech_ok)
  simp only [printSpeechs, List.append_nil, List.map] at this
  unfold printE printEntry
  simp only [List.append_assoc, List.cons_append, List.nil_append] at this ⊢
  exact this

/-- Distinct entries never read back equal (printing is injective on storable entries). -/
theorem C10_injective (e₁ e₂ : Entry) (h₁ : Storable e₁) (h₂ : Storable e₂)
    (h : printE e₁ = printE e₂) : e₁ = e₂ := by
  have a := C10_entry e₁ h₁
  have b := C10_entry e₂ h₂
  rw [h, b] at a
  simpa using a.symm

theorem readLines_append (l₁ l₂ : List Str) :
    readLines kc alts kata (l₁ ++ l₂) = readLines kc alts kata l₁ ++ readLines kc alts kata l₂ := by
  induction l₁ with
  | nil => rfl
  | cons l t ih => simp [readLines, ih]

/-- A malformed line is skipped without affecting the entries read from any other line. -/
theorem C10_isolation (l₁ l₂ : List Str) (bad : Str) (hb : parseL bad = none) :
    readLines kc alts kata (l₁ ++ bad :: l₂) = readLines kc alts kata l₁ ++ readLines kc alts kata l₂ := by
  unfold parseL at hb
  rw [readLines_append]
  simp [readLines, hb]

/-- Comment lines contribute nothing. -/
theorem C10_comment (rest : Str) : parseL (59 :: rest) = some [] := rfl

theorem splitLines_line : ∀ (l rest : Str), (∀ c ∈ l, c ≠ 10) →
    splitLines (l ++ 10 :: rest) = l :: splitLines rest
  | [], rest, _ => by
    simp only [List.nil_append]
    rw [splitLines]
    cases h : splitLines rest <;> simp [Nat.beq]
  | c :: t, rest, hl => by
    have ih := splitLines_line t rest (fun x hx => hl x (List.mem_cons_of_mem _ hx))
    rw [List.cons_append, splitLines, ih]
    simp [(beq_eq_false_iff c 10).2 (hl c List.mem_cons_self)]

theorem names_no_newline : ∀ sp ∈ storableSpeeches, 10 ∉ pr sp := by decide +kernel

theorem printE_no_newline (e : Entry) (h : Storable e) (hn : ∀ c ∈ e.stem, c ≠ 10) : ∀ c ∈ printE e, c ≠ 10 := by
  rintro c hc rfl
  simp only [printE, printEntry, List.mem_append, List.mem_cons, List.not_mem_nil, Nat.reduceEqDiff, or_false] at hc
  rcases hc with (hc | hc) | hc
  · have := h.reading_kana 10 hc
    rw [kana_not_newline] at this; cases this
  · exact hn 10 hc rfl
  · exact names_no_newline e.speech h.speech_ok hc

/-- A written file reads back as exactly the entries written, one line per entry
(stems must not contain a line feed, which would split the line). -/
theorem C10_file : ∀ (es : List Entry), (∀ e ∈ es, Storable e ∧ ∀ c ∈ e.stem, c ≠ 10) →
    readAll kc alts kata (writeAll names vsuf es) = es
  | [], _ => rfl
  | e :: t, h => by
    have he := h e List.mem_cons_self
    have ih := C10_file t (fun x hx => h x (List.mem_cons_of_mem _ hx))
    have hline := printE_no_newline e he.1 he.2
    unfold readAll at ih ⊢
    simp only [writeAll, List.append_assoc, List.singleton_append]
    rw [show printEntry names vsuf e = printE e from rfl, splitLines_line (printE e) _ hline]
    simp only [readLines]
    rw [show parseLine kc alts kata (printE e) = parseL (printE e) from rfl, C10_entry e he.1, ih]
    rfl

/-- Non-vacuity: a concrete storable entry and its line. -/
example : Storable ⟨[0x8ECA], [0x304F, 0x308B, 0x307E], .noun .common⟩ :=
  ⟨by decide, by decide +kernel, by decide, by decide +kernel, by decide +kernel⟩
example : parseL [0x305F, 9, 0x98DF, 9, 47, 0x30D0, 0x884C, 0x4E0B, 0x4E00, 47, 0x4E00, 0x822C, 0x540D, 0x8A5E, 47]
    = some [⟨[0x98DF], [0x305F], .verb .simoIchidan [0x30D0]⟩, ⟨[0x98DF], [0x305F], .noun .common⟩] := by
  decide +kernel

end Chokan.Props.C10
