/-
C02 — the n-best list is duplicate-free, best-first and optimal over all connectable paths.

Model: Chokan.Model.Kkc (`forwardDp`, `nBest` on a replica of std's BinaryHeap), for every score table.  `C02` is
partial correctness (order and optimality whenever the loop ends by itself); `C02_full` (`C02_statement`) adds that
the loop always ends by itself.
-/
import Chokan.Lemmas.KkcAstar
import Chokan.Lemmas.KkcTermination

namespace Chokan.Props.C02
open Chokan.Kkc Chokan.Dic

/-- Viterbi step, upper bound: the score stored in a node is at least the score through every
connectable predecessor. -/
theorem C02_forward_step_ge (t : Tables) (ctx : Ctx) (f : Freq) (cur : Node) (prevs : List Node)
    (p : Node) (hp : p ∈ prevs) (x : Nat) (hx : stepScore t ctx f cur p = some x) :
    ∃ y, bestScore t ctx f cur prevs = some y ∧ x ≤ y :=
  foldl_best_ge t ctx f cur prevs none x (Or.inr ⟨p, hp, hx⟩)

/-- Viterbi step, attainment: the stored score is the score through one of the predecessors. -/
theorem C02_forward_step_attained (t : Tables) (ctx : Ctx) (f : Freq) (cur : Node) (prevs : List Node)
    (y : Nat) (h : bestScore t ctx f cur prevs = some y) :
    ∃ p ∈ prevs, stepScore t ctx f cur p = some y := by
  rcases foldl_best_mem t ctx f cur prevs none y h with h1 | h1
  · cases h1
  · exact h1

/-- A node is unreachable (score "not connectable") iff no predecessor connects to it. -/
theorem C02_forward_step_none (t : Tables) (ctx : Ctx) (f : Freq) (cur : Node) (prevs : List Node) :
    bestScore t ctx f cur prevs = none ↔ ∀ p ∈ prevs, stepScore t ctx f cur p = none := by
  constructor
  · intro h p hp
    cases hs : stepScore t ctx f cur p with
    | none => rfl
    | some x =>
      obtain ⟨y, hy, _⟩ := C02_forward_step_ge t ctx f cur prevs p hp x hs
      rw [h] at hy; cases hy
  · intro h
    cases hb : bestScore t ctx f cur prevs with
    | none => rfl
    | some y =>
      obtain ⟨p, hp, hs⟩ := C02_forward_step_attained t ctx f cur prevs y hb
      rw [h p hp] at hs; cases hs

/-- The list has at most `n` entries and no two entries have the same text (all `n ≥ 1`, any lattice,
any search budget). -/
theorem C02_length_and_distinct (t : Tables) (ctx : Ctx) (f : Freq) (g : Graph) (n fuel : Nat) (hn : 1 ≤ n) :
    (nBest t ctx f g n fuel).length ≤ n ∧ ((nBest t ctx f g n fuel).map Cand.text).Nodup :=
  search_list_inv fuel _ [] [] (by simp; omega) (by simp) (by simp)

/-- Every returned candidate is a `previous`-linked chain from `bos` to `eos` all of whose edges are
connectable, and its reported score is exactly the score of that path (edge scores plus node scores). -/
theorem C02_is_connectable_path (t : Tables) (ctx : Ctx) (f : Freq) (g : Graph) (n fuel : Nat) :
    ∀ c ∈ nBest t ctx f g n fuel, IsChain g c.chain ∧ (∃ r, c.chain = .bos :: r) ∧
      pathScore t ctx f c.chain = some c.score := by
  intro c hc
  obtain ⟨h1, h2⟩ := nBest_chains t ctx f g n fuel c hc
  exact ⟨h1, h2, nBest_scores t ctx f g n fuel c hc⟩

/-- Repeating a query on the same state returns the same list: the result is a function of
(tables, context, learned counts, lattice, n). -/
theorem C02_deterministic (t : Tables) (input : Str) (d : Dict) (ctx : Ctx) (f : Freq) (n fuel : Nat) :
    getCandidates t input d ctx f n fuel = getCandidates t input d ctx f n fuel := rfl

/-- **Best-first and optimal** (partial correctness of the A* loop).  For the lattice of any input
over any well-formed dictionary, after the forward pass, for every `n ≥ 1`: whenever the `while let`
loop ends by itself within `fuel` iterations (`nBestE … = some R`: the heap ran empty or `n` results
were collected), the list `R` it returns
* is what `nBest` returns, has at most `n` entries with pairwise different texts,
* is in non-increasing order of the engine's own path score,
* and is optimal over **all** connectable `bos → eos` paths of the lattice: every such path either has
  its text in `R`, or `R` has exactly `n` entries and none of them scores less than the path (so when
  fewer than `n` distinct texts exist, all of them are returned).
Proof: the heap replica is a max-heap (`Lemmas/KkcHeap`), the forward scores are exact Viterbi steps
(`Lemmas/KkcForward`), priorities bound the score of every completion and never grow from parent to
child, and every complete path keeps a suffix in the heap until it is output (`Lemmas/KkcAstar`). -/
theorem C02_best_first_optimal (t : Tables) (ctx : Ctx) (f : Freq) (input : Str) (g0 : Graph)
    (hg : GraphOK input g0) (n fuel : Nat) (hn : 1 ≤ n) (R : List Cand)
    (h : nBestE t ctx f (forwardDp t ctx f g0) n fuel = some R) :
    nBest t ctx f (forwardDp t ctx f g0) n fuel = R ∧
    R.length ≤ n ∧ (R.map Cand.text).Nodup ∧ (R.map Cand.score).Pairwise (· ≥ ·) ∧
    ∀ (p : List Node) (s : Nat), IsChain (forwardDp t ctx f g0) (.bos :: p) →
      pathScore t ctx f (.bos :: p) = some s →
      ((p.map Node.text).flatten ∈ R.map Cand.text) ∨ (R.length = n ∧ ∀ r ∈ R, s ≤ r.score) := by
  have hR := nBestE_some t ctx f _ n fuel R h
  have hF := forwardDp_fwdOK t ctx f input g0 hg
  obtain ⟨hsorted, hopt⟩ := nBestE_spec t ctx f _ n fuel hn hF R h
  obtain ⟨hlen, hnd⟩ := C02_length_and_distinct t ctx f (forwardDp t ctx f g0) n fuel hn
  rw [hR] at hlen hnd
  refine ⟨hR, hlen, hnd, hsorted, ?_⟩
  intro p s hch hs
  rcases hopt (.bos :: p) s ⟨⟨p, rfl⟩, hch, hs⟩ with h1 | ⟨h2, h3⟩
  · left
    simpa [chainText, Node.text] using h1
  · exact Or.inr ⟨by omega, h3⟩

/-- The same at the level of `get_candidates`: any input, any well-formed dictionary, context,
learned counts and `n ≥ 1`. -/
theorem C02 (t : Tables) (input : Str) (d : Dict) (ctx : Ctx) (f : Freq) (n fuel : Nat) (hn : 1 ≤ n)
    (hd : Dict.WF d) (g0 : Graph) (hg0 : fromInput t input d ctx = some g0) (R : List Cand)
    (h : nBestE t ctx f (forwardDp t ctx f g0) n fuel = some R) :
    getCandidates t input d ctx f n fuel = some R ∧
    R.length ≤ n ∧ (R.map Cand.text).Nodup ∧ (R.map Cand.score).Pairwise (· ≥ ·) ∧
    ∀ (p : List Node) (s : Nat), IsChain (forwardDp t ctx f g0) (.bos :: p) →
      pathScore t ctx f (.bos :: p) = some s →
      ((p.map Node.text).flatten ∈ R.map Cand.text) ∨ (R.length = n ∧ ∀ r ∈ R, s ≤ r.score) := by
  have hg := fromInput_ok t input d ctx hd g0 hg0
  obtain ⟨h1, h2⟩ := C02_best_first_optimal t ctx f input g0 hg n fuel hn R h
  refine ⟨?_, h2⟩
  simp [getCandidates, hg0, h1]

/-- Full-strength statement: from some number of iterations on the loop ends by itself, always with
the same list, which is duplicate-free, best-first and optimal over all connectable paths of the lattice. -/
def C02_statement : Prop :=
  ∀ (t : Tables) (input : Str) (d : Dict) (ctx : Ctx) (f : Freq) (n : Nat), 1 ≤ n → Dict.WF d →
    ∀ g0, fromInput t input d ctx = some g0 →
    ∃ fuel0 R, ∀ fuel, fuel0 ≤ fuel →
      getCandidates t input d ctx f n fuel = some R ∧
      R.length ≤ n ∧ (R.map Cand.text).Nodup ∧ (R.map Cand.score).Pairwise (· ≥ ·) ∧
      ∀ (p : List Node) (s : Nat), IsChain (forwardDp t ctx f g0) (.bos :: p) →
        pathScore t ctx f (.bos :: p) = some s →
        ((p.map Node.text).flatten ∈ R.map Cand.text) ∨ (R.length = n ∧ ∀ r ∈ R, s ≤ r.score)

/-- **C02 at full strength**, termination of the `while let` loop included: the total weight of the
heap (each candidate weighs one plus all chains extending it) decreases with every iteration. -/
theorem C02_full : C02_statement := by
  intro t input d ctx f n hn hd g0 hg0
  have hg := fromInput_ok t input d ctx hd g0 hg0
  have hg' := forwardDp_ok t ctx f input g0 hg
  obtain ⟨fuel0, R, hR⟩ := nBestE_terminates t ctx f input (forwardDp t ctx f g0) hg' n
  refine ⟨fuel0, R, fun fuel hf => ?_⟩
  exact C02 t input d ctx f n fuel hn hd g0 hg0 R (nBestE_mono t ctx f _ n fuel0 R hR hf)

end Chokan.Props.C02
