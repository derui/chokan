/-
C04 — The double-array trie behaves as an exact set of keys under any insertion history.

Model: Chokan.Model.Trie (hand-written from libs/trie; tied by the two-pass correspondence run that
replays the implementation's own `xcheck` choices and compares complete states). An insertion's oracle is the list of
bases its `xcheck` calls return: any of them, i.e. any hash-set iteration order. Proof: the invariant of `Lemmas/Trie.lean`.
-/
import Chokan.Model.Trie
import Chokan.Lemmas.Trie

namespace Chokan.Props.C04
open Chokan.Trie

/-- One operation of a history: insert a key (with the bases the `xcheck` calls of this insertion
return), or a clone / serialize+deserialize round trip (the identity on the abstract state). -/
inductive Op
  | insert (key : List Nat) (oracle : List Nat)
  | roundTrip

/-- Run a history; `none` when an oracle is not one the implementation could produce, or on a panic. -/
def run (t : Trie) : List Op → Option Trie
  | [] => some t
  | .roundTrip :: ops => run t ops
  | .insert key oracle :: ops =>
    match t.insert key oracle with
    | .ok (t', _) => run t' ops
    | .reject => run t ops          -- `Err(())`: the caller goes on with the unchanged trie
    | .panic => none
    | .badOracle => none

def insertedKeys : List Op → List (List Nat)
  | [] => []
  | .roundTrip :: ops => insertedKeys ops
  | .insert key _ :: ops => key :: insertedKeys ops

/-- Full-strength statement of the property (see `C04` for what is proved so far). -/
def C04_statement : Prop :=
  ∀ (alpha : List Nat), alpha.Nodup → 0 < alpha.length → alpha.length ≤ 254 →
  ∀ (ops : List Op) (t : Trie), run (Trie.fromKeys alpha) ops = some t →
  ∀ key, (t.search key).isSome ↔ (key ∈ insertedKeys ops ∧ ∀ c ∈ key, c ∈ alpha)

/-- Keys containing a character outside the alphabet are rejected, whatever the oracle; the caller
keeps the unchanged trie (`insert` returns no new state), and such keys are never found. -/
theorem C04_reject (t : Trie) (key oracle : List Nat) (h : ∃ c ∈ key, c ∉ t.alpha) :
    t.insert key oracle = .reject ∧ t.search key = none := by
  have := (keyLabels_eq_none t.alpha key).2 h
  simp [Trie.insert, Trie.search, Trie.keyToLabels, this]

/-- A clone / serde round trip changes nothing observable. -/
theorem C04_roundtrip (t : Trie) (ops : List Op) : run t (.roundTrip :: ops) = run t ops := rfl

def insertedLabels (alpha : List Nat) (ops : List Op) : List (List Nat) :=
  (insertedKeys ops).filterMap fun key => (keyLabels alpha key).map (· ++ [alpha.length + 1])

/-- State invariant of a trie that holds the label lists `Ks`. -/
def Holds (t : Trie) (Ks : List (List Nat)) : Prop :=
  ∃ A, Inv0 t.nLabels t.nodes A ∧ FreeOK t.nodes ∧
    ∀ M, (∃ i, A i = some M) ↔ (M = [] ∨ ∃ K ∈ Ks, ∃ k, 1 ≤ k ∧ k ≤ K.length ∧ M = K.take k)

theorem holds_init (alpha : List Nat) : Holds (Trie.fromKeys alpha) [] := by
  obtain ⟨hI, hF⟩ := inv_init (Trie.fromKeys alpha).nLabels
  exact ⟨_, hI, hF, fun M => by simp [eq_comm]⟩

theorem keyToLabels_bound (t : Trie) (key r : List Nat) (hk : keyLabels t.alpha key = some r) :
    ∀ l ∈ r ++ [t.terminal], 1 ≤ l ∧ l ≤ t.nLabels := by
  intro l hl
  rcases List.mem_append.1 hl with hl | hl
  · have := (keyLabels_spec t.alpha key r hk).1 l hl
    simp only [Trie.nLabels]; omega
  · simp only [List.mem_singleton] at hl; subst hl
    simp [Trie.terminal, Trie.nLabels]

theorem insert_spec (t : Trie) (Ks : List (List Nat)) (key oracle : List Nat) (h : Holds t Ks) :
    match keyLabels t.alpha key with
    | none => t.insert key oracle = .reject
    | some r => (t.insert key oracle).okOr fun (t', _) =>
        t'.alpha = t.alpha ∧ Holds t' (Ks ++ [r ++ [t.alpha.length + 1]]) := by
  obtain ⟨A, hI, hF, hpaths⟩ := h
  unfold Trie.insert Trie.keyToLabels
  cases hk : keyLabels t.alpha key with
  | none => rfl
  | some r =>
    simp only [Option.map_some]
    have hloop := insertLoop_ok t.nLabels _ t.nodes 0 oracle A [] hI hF hI.root_path (keyToLabels_bound t key r hk)
    refine hloop.elim (fun res hres => ?_) trivial
    obtain ⟨A', hI', hF', hpaths'⟩ := hres
    refine ⟨rfl, A', hI', hF', fun M => ?_⟩
    rw [hpaths' M, hpaths M]
    simp only [List.nil_append, List.mem_append, List.mem_singleton, Trie.terminal, or_and_right, exists_or,
      exists_eq_left, or_assoc]

theorem run_holds (alpha : List Nat) : ∀ (ops : List Op) (t t' : Trie) (Ks : List (List Nat)),
    t.alpha = alpha → Holds t Ks → run t ops = some t' →
    t'.alpha = alpha ∧ Holds t' (Ks ++ insertedLabels alpha ops)
  | [], t, t', Ks, ha, hH, h => by
    simp only [run, Option.some.injEq] at h; subst h
    simpa [insertedLabels, insertedKeys] using ⟨ha, hH⟩
  | .roundTrip :: ops, t, t', Ks, ha, hH, h => run_holds alpha ops t t' Ks ha hH h
  | .insert key oracle :: ops, t, t', Ks, ha, hH, h => by
    have hs := insert_spec t Ks key oracle hH
    simp only [run] at h
    rw [ha] at hs
    cases hk : keyLabels alpha key with
    | none =>
      rw [hk] at hs
      rw [hs] at h
      simp only [insertedLabels, insertedKeys, List.filterMap_cons, hk, Option.map_none]
      exact run_holds alpha ops t t' Ks ha hH h
    | some r =>
      rw [hk] at hs
      revert h
      refine hs.elim (fun (t1, _) ⟨ha1, hH1⟩ h => ?_) nofun
      simp only [insertedLabels, insertedKeys, List.filterMap_cons, hk, Option.map_some]
      rw [List.append_cons]
      exact run_holds alpha ops t1 t' _ ha1 hH1 h

theorem mem_insertedLabels (alpha : List Nat) (K : List Nat) : ∀ ops : List Op,
    K ∈ insertedLabels alpha ops ↔
      ∃ key ∈ insertedKeys ops, ∃ r, keyLabels alpha key = some r ∧ K = r ++ [alpha.length + 1] := by
  intro ops
  simp only [insertedLabels, List.mem_filterMap, Option.map_eq_some_iff, eq_comm (a := K)]

/-- **C04.**  The trie is an exact set: after any history that runs without a panic (whatever bases
the `xcheck` calls returned), `search` finds a key iff it was inserted and lies over the alphabet. -/
theorem C04 : C04_statement := by
  intro alpha _ _ _ ops t hrun key
  obtain ⟨ha, A, hI, hF, hpaths⟩ := run_holds alpha ops (Trie.fromKeys alpha) t [] rfl (holds_init alpha) hrun
  simp only [List.nil_append] at hpaths
  unfold Trie.search Trie.keyToLabels
  rw [ha]
  cases hk : keyLabels alpha key with
  | none =>
    simp only [Option.map_none, Option.isSome_none, Bool.false_eq_true, false_iff, not_and]
    intro _ hall
    obtain ⟨c, hc, hn⟩ := (keyLabels_eq_none alpha key).1 hk
    exact hn (hall c hc)
  | some r =>
    simp only [Option.map_some]
    have hterm : t.terminal = alpha.length + 1 := by simp [Trie.terminal, ha]
    rw [walk_isSome_iff hI _ fun l hl => (keyToLabels_bound t key r (ha ▸ hk) l hl).1, hpaths, hterm]
    constructor
    · rintro (h | ⟨K, hK, k, _, _, h3⟩)
      · simp at h
      · obtain ⟨key', hkey', r', hr', hKe⟩ := (mem_insertedLabels alpha K ops).1 hK
        subst hKe
        have hb' := (keyLabels_spec alpha key' r' hr').1
        -- a prefix of `r' ++ [terminal]` that ends in the terminal label is the whole list
        have hpre : r ++ [alpha.length + 1] <+: r' ++ [alpha.length + 1] := h3 ▸ List.take_prefix _ _
        have hrr : r = r' := by
          rcases List.prefix_concat_iff.1 hpre with h | h
          · exact List.append_inj_left' h rfl
          · have := (hb' (alpha.length + 1) (h.subset (by simp))).2
            omega
        subst hrr
        have hkk : key = key' := keyLabels_inj alpha key key' r hk hr'
        subst hkk
        refine ⟨hkey', fun c hc => Decidable.byContradiction fun h => ?_⟩
        rw [(keyLabels_eq_none alpha key).2 ⟨c, hc, h⟩] at hk
        cases hk
    · rintro ⟨hkey, _⟩
      -- the whole label list of `key`, which is among the inserted ones
      have hK : r ++ [alpha.length + 1] ∈ insertedLabels alpha ops :=
        (mem_insertedLabels alpha _ ops).2 ⟨key, hkey, r, hk, rfl⟩
      exact Or.inr ⟨_, hK, (r ++ [alpha.length + 1]).length, by simp, Nat.le_refl _, List.take_length.symm⟩

/-- No panic: in every state reached by a history, an insertion never hits an `expect`, an index
out of range, `Base + Label` on an unused base, or the assertions of `xcheck` and `rebase`. -/
theorem C04_no_panic (t : Trie) (Ks : List (List Nat)) (key oracle : List Nat) (h : Holds t Ks) :
    t.insert key oracle ≠ .panic := by
  intro e
  have := insert_spec t Ks key oracle h
  rw [e] at this
  split at this
  · cases this
  · exact this

/-- The only way a history fails to run in the model is an `xcheck` answer the implementation's loop
could not have produced: every prefix runs, up to an insertion that reports `badOracle`. -/
theorem C04_only_bad_oracle : ∀ (ops : List Op) (t : Trie) (Ks : List (List Nat)), Holds t Ks →
    run t ops = none →
    ∃ pre key oracle post t', ops = pre ++ .insert key oracle :: post ∧ run t pre = some t' ∧
      t'.insert key oracle = .badOracle
  | [], t, Ks, _, h => by simp [run] at h
  | .roundTrip :: ops, t, Ks, hH, h => by
    obtain ⟨pre, key, oracle, post, t', h1, h2, h3⟩ := C04_only_bad_oracle ops t Ks hH h
    exact ⟨.roundTrip :: pre, key, oracle, post, t', by rw [h1]; rfl, h2, h3⟩
  | .insert key oracle :: ops, t, Ks, hH, h => by
    simp only [run] at h
    cases hi : t.insert key oracle with
    | ok res =>
      obtain ⟨t1, rest⟩ := res
      simp only [hi] at h
      have hH1 := (run_holds t.alpha [.insert key oracle] t t1 Ks rfl hH (by simp only [run, hi])).2
      obtain ⟨pre, key', oracle', post, t', h1, h2, h3⟩ := C04_only_bad_oracle ops t1 _ hH1 h
      exact ⟨.insert key oracle :: pre, key', oracle', post, t', by rw [h1]; rfl, by simp [run, hi, h2], h3⟩
    | reject =>
      simp only [hi] at h
      obtain ⟨pre, key', oracle', post, t', h1, h2, h3⟩ := C04_only_bad_oracle ops t Ks hH h
      exact ⟨.insert key oracle :: pre, key', oracle', post, t', by rw [h1]; rfl, by simp [run, hi, h2], h3⟩
    | panic => exact absurd hi (C04_no_panic t Ks key oracle hH)
    | badOracle => exact ⟨[], key, oracle, ops, t, rfl, rfl, hi⟩

/-- Non-vacuity: the last insertion relocates the two children of a node (`rebase` from base 2 to base 10). -/
example :
    (run (Trie.fromKeys [10, 11, 12])
      [.insert [10, 11] [2, 5], .insert [11] [1], .insert [10] [], .roundTrip, .insert [13] [],
       .insert [12, 10] [6, 4], .insert [10, 12] [10, 0]]).map
      (fun t => [[10, 11], [11], [10], [12, 10], [10, 12], [12], [10, 10], [], [13]].map
        fun k => (t.search k).isSome)
    = some [true, true, true, true, true, false, false, false, false] := by
  decide +kernel

end Chokan.Props.C04
