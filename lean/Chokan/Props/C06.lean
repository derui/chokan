/-
C06 — a confirmation updates exactly one learned count, and learning only re-ranks.

Model: Chokan.Model.Server (`confirm`, `updateWord`, `expire`) and Chokan.Model.Kkc (scores).
-/
import Std.Data.String.ToNat
import Chokan.Model.Server
import Chokan.Gen.Server
import Chokan.Lemmas.KkcCounts
import Chokan.Lemmas.Counts
import Chokan.Lemmas.ServerStep
import Chokan.Props.C02

namespace Chokan.Props.C06
open Chokan.Server Chokan.Kkc Chokan.Dic

/-- An unknown (or already consumed) session changes no count, no user word and queues nothing. -/
theorem C06_unknown_session (c : Cfg) (s : State) (sid : Nat) (cid : Option Nat) (now : Int)
    (h : s.sessions.find? (·.sid == sid) = none) :
    (confirm c s sid cid now).freq = s.freq ∧ (confirm c s sid cid now).userDict = s.userDict ∧
    (confirm c s sid cid now).pending = s.pending := by
  rw [confirm_unknown_session h]
  exact ⟨rfl, rfl, rfl⟩

/-- A known session with an unknown candidate id changes no count either (the session is consumed). -/
theorem C06_unknown_candidate (c : Cfg) (s : State) (sid : Nat) (cid : Option Nat) (now : Int) (sess : Session)
    (h : s.sessions.find? (·.sid == sid) = some sess) (hc : (cid.bind fun i => sess.cands[i]?) = none) :
    (confirm c s sid cid now).freq = s.freq ∧ (confirm c s sid cid now).userDict = s.userDict := by
  rw [confirm_unknown_candidate h hc]
  exact ⟨rfl, rfl⟩

/-- Sessions are single-use: after a confirmation the session id is gone, whatever the candidate id. -/
theorem C06_single_use (c : Cfg) (s : State) (sid : Nat) (cid : Option Nat) (now : Int) :
    (confirm c s sid cid now).sessions.find? (·.sid == sid) = none := by
  rw [confirm_eq]
  exact find?_filter_sid ..

/-- Expiry keeps exactly the entries used within the expiry period (strict `>` as in frequency.rs). -/
theorem C06_expiry (f : List FreqEntry) (now : Int) (expiry : Nat) (e : FreqEntry) :
    e ∈ expire f now expiry ↔ e ∈ f ∧ ¬ (now - e.last > (expiry : Int)) := by
  simp [expire, List.mem_filter]

/-- The expiry period is three days, in milliseconds. -/
theorem C06_expiry_constant : Chokan.Gen.Server.expiryMs = 3 * 24 * 60 * 60 * 1000 := by decide

/-- Learned counts only enter the score of the node of that written form in that context: the node
score is the count plus a term that does not depend on the learned data. -/
theorem C06_node_score (t : Tables) (ctx : Ctx) (f : Freq) (e i : Nat) (w : Word) (fw : Score) :
    nodeScore t ctx f (.word e i w fw) =
      (nodeScore t ctx [] (.word e i w fw)).map (· + freqOf f ctx w.word) := by
  simp [nodeScore, freqOf]; omega

/-- Edge scores and the lattice construction take no learned data at all (they have no such argument);
in particular counts learned in one context never influence another: -/
theorem C06_context_isolation (t : Tables) (ctx : Ctx) (f g : Freq) (n : Node)
    (h : ∀ w, freqOf f ctx w = freqOf g ctx w) : nodeScore t ctx f n = nodeScore t ctx g n := by
  cases n <;> simp [nodeScore, h]

/-- `hopt'` is the optimality clause of `C02_full` for `f'`; `paths_same` carries a path of the `f` graph over to the `f'` graph. -/
theorem texts_transfer (t : Tables) (ctx : Ctx) (f f' : Freq) (g0 : Graph) (n fuel : Nat) (R R' : List Cand)
    (hR : nBest t ctx f (forwardDp t ctx f g0) n fuel = R)
    (hopt' : ∀ (p : List Node) (s : Nat), IsChain (forwardDp t ctx f' g0) (.bos :: p) →
      pathScore t ctx f' (.bos :: p) = some s →
      ((p.map Node.text).flatten ∈ R'.map Cand.text) ∨ (R'.length = n ∧ ∀ r ∈ R', s ≤ r.score))
    (hlt' : R'.length < n) : ∀ x ∈ R.map Cand.text, x ∈ R'.map Cand.text := by
  intro x hx
  obtain ⟨r, hr, rfl⟩ := List.mem_map.1 hx
  rw [← hR] at hr
  obtain ⟨hch, p, hp⟩ := nBest_chains t ctx f _ n fuel r hr
  have hc := (pathScore_some_iff t ctx f _).1 ⟨_, nBest_scores t ctx f _ n fuel r hr⟩
  rw [hp] at hch hc
  obtain ⟨p', hC', hc', htext⟩ :=
    paths_same t ctx ((forwardDp_same t ctx f g0).symm.trans (forwardDp_same t ctx f' g0)) ⟨p, hch, hc, rfl⟩
  obtain ⟨s', hs'⟩ := (pathScore_some_iff t ctx f' _).2 hc'
  rcases hopt' p' s' hC' hs' with h | ⟨h, _⟩
  · rw [htext] at h
    simpa [Cand.text, hp, Node.text] using h
  · omega

/-- **Learning only re-ranks.**  For every input, well-formed dictionary, context and `n ≥ 1`, and any
two states `f`, `f'` of the learned counts (in particular with and without learned data): from some
number of loop iterations on both conversions return fixed lists, and whenever both are untruncated
(fewer than `n` entries) they contain exactly the same texts. -/
theorem C06_same_untruncated_set (t : Tables) (input : Str) (d : Dict) (ctx : Ctx) (f f' : Freq) (n : Nat)
    (hn : 1 ≤ n) (hd : Dict.WF d) :
    ∃ fuel0 R R', ∀ fuel, fuel0 ≤ fuel →
      getCandidates t input d ctx f n fuel = some R ∧ getCandidates t input d ctx f' n fuel = some R' ∧
      (R.length < n → R'.length < n → ∀ x, x ∈ R.map Cand.text ↔ x ∈ R'.map Cand.text) := by
  obtain ⟨g0, hg0⟩ : ∃ g0, fromInput t input d ctx = some g0 := ⟨_, rfl⟩
  obtain ⟨fa, R, hall⟩ := C02.C02_full t input d ctx f n hn hd g0 hg0
  obtain ⟨fb, R', hall'⟩ := C02.C02_full t input d ctx f' n hn hd g0 hg0
  refine ⟨max fa fb, R, R', ?_⟩
  intro fuel hf
  obtain ⟨hget, _, _, _, hopt⟩ := hall fuel (by omega)
  obtain ⟨hget', _, _, _, hopt'⟩ := hall' fuel (by omega)
  refine ⟨hget, hget', ?_⟩
  intro hlt hlt' x
  have hR : nBest t ctx f (forwardDp t ctx f g0) n fuel = R := by
    simpa [getCandidates, hg0] using hget
  have hR' : nBest t ctx f' (forwardDp t ctx f' g0) n fuel = R' := by
    simpa [getCandidates, hg0] using hget'
  exact ⟨texts_transfer t ctx f f' g0 n fuel R R' hR hopt' hlt' x,
         texts_transfer t ctx f' f g0 n fuel R' R hR' hopt hlt x⟩

/-- **Only an id that was issued names a candidate.**  A session with `n` candidates answers to exactly the `n`
strings `"0"`, …, `toString (n-1)` it was issued with, each naming its own position: no other string (`"+0"`,
`"00"`, `" 1"`, `"1.0"`, an index past the end, …) resolves to any candidate. -/
theorem C06_candidate_id_exact (n i : Nat) (id : String) :
    Chokan.Server.candIndex n id = some i ↔ i < n ∧ id = toString i := by
  rw [candIndex, List.find?_range_eq_some, List.mem_range, beq_iff_eq]
  constructor
  · exact fun ⟨hid, hi, _⟩ => ⟨hi, hid.symm⟩
  · rintro ⟨hi, rfl⟩
    -- distinct numbers are written differently, so no smaller index answers to the id
    refine ⟨rfl, hi, fun j hj => ?_⟩
    rw [Bool.not_eq_true', beq_eq_false_iff_ne, Nat.toString_eq_repr, Nat.toString_eq_repr]
    exact fun h => Nat.ne_of_lt hj (Nat.repr_injective h)

/-- … so a confirmation whose candidate id is not one of the issued strings changes no learned count and no
user word (it only consumes the session, as an unknown candidate does). -/
theorem C06_unissued_id_changes_nothing (c : Chokan.Server.Cfg) (s : Chokan.Server.State) (sid : Nat) (id : String) (now : Int)
    (hbad : ∀ sess, s.sessions.find? (·.sid == sid) = some sess → ∀ i, i < sess.cands.length → id ≠ toString i) :
    (Chokan.Server.confirmId c s sid id now).freq = s.freq ∧
    (Chokan.Server.confirmId c s sid id now).userDict = s.userDict ∧
    (Chokan.Server.confirmId c s sid id now).pending = s.pending := by
  rw [confirmId]
  cases hs : s.sessions.find? (·.sid == sid) with
  | none =>
    rw [confirm_unknown_session hs]
    exact ⟨rfl, rfl, rfl⟩
  | some sess =>
    have : candIndex sess.cands.length id = none := Option.eq_none_iff_forall_ne_some.2 fun i hc =>
      have ⟨hi, hid⟩ := (C06_candidate_id_exact _ _ _).1 hc
      hbad sess hs i hi hid
    rw [confirm_unknown_candidate hs (by rw [Option.bind_some, this, Option.bind_none])]
    exact ⟨rfl, rfl, rfl⟩

example : Chokan.Server.candIndex 3 "2" = some 2 ∧ Chokan.Server.candIndex 3 "+0" = none ∧
    Chokan.Server.candIndex 3 "00" = none ∧ Chokan.Server.candIndex 3 "3" = none ∧ Chokan.Server.candIndex 3 "" = none := by
  decide +kernel

/-- the learned counts of the written forms of the word nodes of a list (one term per occurrence) -/
def learnedSum (f : Freq) (ctx : Ctx) : List Node → Nat
  | [] => 0
  | .word _ _ w _ :: t => freqOf f ctx w.word + learnedSum f ctx t
  | _ :: t => learnedSum f ctx t

theorem nodeScore_learned (t : Tables) (ctx : Ctx) (f : Freq) (n : Node) :
    nodeScore t ctx f n = (nodeScore t ctx [] n).map (· + learnedSum f ctx [n]) := by
  cases n with
  | word e i w fw =>
    rw [C06_node_score]
    simp [learnedSum]
  | _ => simp [nodeScore, learnedSum]

theorem learnedSum_cons (f : Freq) (ctx : Ctx) (n : Node) (t : List Node) :
    learnedSum f ctx (n :: t) = learnedSum f ctx [n] + learnedSum f ctx t := by
  cases n <;> simp [learnedSum]

/-- **Every path's score rises by count × occurrences of the learned words**: with learned data the score of a path is
its score without learned data plus, for every word node after the first node — whatever its part of speech —, the
count learned for that node's written form in this context; a path that is not connectable stays so. -/
theorem C06_path_score (t : Tables) (ctx : Ctx) (f : Freq) : ∀ (p : List Node),
    pathScore t ctx f p = (pathScore t ctx [] p).map (· + learnedSum f ctx p.tail)
  | [] => by simp [pathScore, learnedSum]
  | [_] => by simp [pathScore, learnedSum]
  | a :: b :: rest => by
    have ih := C06_path_score t ctx f (b :: rest)
    simp only [pathScore, List.tail_cons]
    rw [ih, nodeScore_learned t ctx f b, learnedSum_cons f ctx b rest]
    simp only [List.tail_cons]
    -- one of the three scores is absent and both sides are `none`, or the sums agree
    cases edgeScore t ctx a b <;> cases nodeScore t ctx [] b <;> cases pathScore t ctx [] (b :: rest)
    all_goals simp [Score.add]
    omega

/-- **`update_word` is an exact table update**: the count filed under (context, word) rises by one (from 0 if there was none) and
the count under every other key is what it was. -/
theorem C06_update_exact (f : List FreqEntry) (ctx : Ctx) (w : Str) (now : Int) (c' : Ctx) (w' : Str) :
    countOf (updateWord f ctx w now) c' w' = countOf f c' w' + (if c' = ctx ∧ w' = w then 1 else 0) := by
  rw [countOf_eq, countOf_eq]
  by_cases h : c' = ctx ∧ w' = w
  · obtain ⟨rfl, rfl⟩ := h
    rw [filter_updateWord_self]
    cases f.filter (isKey c' w') <;> simp [hit]
  · rw [filter_updateWord_other f ctx w now h]
    simp [h]

/-- **What a confirmation does to the learned counts** (`UserPref::update_frequency` = `update_word` then `expire_frequencies`,
the shape the translator checks): the confirmed word's count in the confirmation's context rises by exactly one; every other count
that is not due for expiry is unchanged; a count is dropped exactly when all its entries are older than the expiry period. -/
theorem C06_confirmation_counts (f : List FreqEntry) (ctx : Ctx) (w : Str) (now : Int) (ex : Nat) :
    countOf (expire (updateWord f ctx w now) now ex) ctx w = countOf f ctx w + 1 ∧
    (∀ c' w', ¬ (c' = ctx ∧ w' = w) → (∀ e ∈ f, isKey c' w' e = true → fresh now ex e = true) →
      countOf (expire (updateWord f ctx w now) now ex) c' w' = countOf f c' w') ∧
    (∀ c' w', ¬ (c' = ctx ∧ w' = w) → (∀ e ∈ f, isKey c' w' e = true → fresh now ex e = false) →
      countOf (expire (updateWord f ctx w now) now ex) c' w' = 0) := by
  refine ⟨?_, fun c' w' hne hf => ?_, fun c' w' hne hf => ?_⟩
  · rw [countOf_confirmation, if_pos ⟨rfl, rfl⟩]
  · rw [countOf_confirmation, if_neg hne, countOf_expire_fresh now ex c' w' f hf]
  · rw [countOf_confirmation, if_neg hne, countOf_expire_stale now ex c' w' f hf]

/-- The premises are satisfiable: 時 confirmed in `normal` at t = 300 000 000 goes 2 → 3; 次 (fresh) keeps 5; 個, last used more
than three days earlier, is dropped; 時 in `proper` is another key. -/
example :
    let f : List FreqEntry := [⟨.normal, [26178], 2, 100000000⟩, ⟨.normal, [27425], 5, 299999999⟩, ⟨.normal, [20491], 7, 0⟩,
                               ⟨.proper, [26178], 4, 250000000⟩]
    let f' := expire (updateWord f .normal [26178] 300000000) 300000000 259200000
    countOf f' .normal [26178] = 3 ∧ countOf f' .normal [27425] = 5 ∧ countOf f' .normal [20491] = 0 ∧
    countOf f' .proper [26178] = 4 := by decide +kernel

/-- The server's `UpdateFrequency` on a known session and candidate with an independent word: the learned table afterwards is
`update_word` then `expire_frequencies` of the table before, in the context the session was converted under — so
`C06_confirmation_counts` describes every count after the confirmation. A candidate without independent word changes no count. -/
theorem C06_confirm_freq (c : Cfg) (s : State) (sid i : Nat) (now : Int) (sess : Session) (cand : Cand)
    (h : s.sessions.find? (·.sid == sid) = some sess) (hc : sess.cands[i]? = some cand) :
    (confirm c s sid (some i) now).freq =
      match independentWord cand.chain with
      | some w => expire (updateWord s.freq sess.ctx w now) now c.expiryMs
      | none => s.freq := by
  rw [confirm_eq]
  simp only [learned, chosen_eq_some h hc]
  rfl

theorem C06_confirm_exactly_one (c : Cfg) (s : State) (sid i : Nat) (now : Int) (sess : Session) (cand : Cand) (w : Str)
    (h : s.sessions.find? (·.sid == sid) = some sess) (hc : sess.cands[i]? = some cand)
    (hw : independentWord cand.chain = some w) :
    let f' := (confirm c s sid (some i) now).freq
    countOf f' sess.ctx w = countOf s.freq sess.ctx w + 1 ∧
    (∀ c' w', ¬ (c' = sess.ctx ∧ w' = w) → (∀ e ∈ s.freq, isKey c' w' e = true → fresh now c.expiryMs e = true) →
      countOf f' c' w' = countOf s.freq c' w') ∧
    (∀ c' w', ¬ (c' = sess.ctx ∧ w' = w) → (∀ e ∈ s.freq, isKey c' w' e = true → fresh now c.expiryMs e = false) →
      countOf f' c' w' = 0) := by
  simp only [C06_confirm_freq c s sid i now sess cand h hc, hw]
  exact C06_confirmation_counts s.freq sess.ctx w now c.expiryMs

end Chokan.Props.C06
