/-
Idempotence of the client's romaji conversion (C19).

The output consists of table values and っ (characters no spelling uses: "unmapped") and of
characters passed through one at a time.  A character is passed through at a dead end: no spelling
matches there and no doubled consonant starts there.  The output repeats the input from there up to
its next unmapped character or its end, and the probes do not see further (`deadEnd_of_shared`): it
is a dead end of the output, too.  Unmapped characters cut the conversion into independent pieces
(`conv_passthrough`).
-/
import Chokan.Lemmas.Romaji

namespace Chokan.Romaji
variable {table : Table} {cons : List Nat} {bound : Nat}

def Unmapped (table : Table) (cons : List Nat) (c : Nat) : Prop := keyChar table c = false ∧ memNat c cons = false

theorem conv_unmapped_prefix (hk : noEmptyKey table = true) :
    ∀ (u z : Str), (∀ c ∈ u, Unmapped table cons c) →
      conv table cons bound (u ++ z) = (conv table cons bound z).map (u ++ ·)
  | [], z, _ => by simp
  | c :: u, z, h => by
    have hc := h c (by simp)
    show conv table cons bound ([] ++ c :: (u ++ z)) = _
    rw [conv_passthrough hk [] _ c hc.1 hc.2, conv_nil, Option.bind_some,
      conv_unmapped_prefix hk u z (fun x hx => h x (by simp [hx]))]
    cases conv table cons bound z <;> rfl

theorem conv_unmapped (hk : noEmptyKey table = true) (s : Str) (h : ∀ c ∈ s, Unmapped table cons c) :
    conv table cons bound s = some s := by
  rw [← List.append_nil s, conv_unmapped_prefix hk s [] h, conv_nil]
  rfl

theorem deadEnd_of_shared {c : Nat} {B z s : Str} (hz : ∀ d ∈ z.head?, Unmapped table cons d) (hB : B <+: s)
    (h1 : sokuonP cons (c :: s) = false) (h2 : findKey table (c :: s) bound 0 = none) :
    sokuonP cons (c :: (B ++ z)) = false ∧ findKey table (c :: (B ++ z)) bound 0 = none := by
  refine ⟨?_, findKey_none_of_shared (r := c :: B) (fun d hd => (hz d hd).1) (List.cons_prefix_cons.2 ⟨rfl, hB⟩) h2⟩
  cases B with
  | cons b bs =>
    obtain ⟨s', rfl⟩ := hB
    exact h1
  | nil =>
    cases z with
    | nil => rfl
    | cons d z => simp [sokuonP, (hz d rfl).2]

/-- Invariant of a conversion result `out` of `s`: it is a fixed point, and it starts with a run `B` of `s`
behind which it ends or goes on with an unmapped character. -/
structure IdemInv (table : Table) (cons : List Nat) (bound : Nat) (s out : Str) : Prop where
  fixed : conv table cons bound out = some out
  shared : ∃ B z, out = B ++ z ∧ B <+: s ∧ ∀ d ∈ z.head?, Unmapped table cons d

theorem IdemInv.of_unmapped_prefix (hk : noEmptyKey table = true) (s : Str) {u out : Str} (hne : u ≠ [])
    (hu : ∀ c ∈ u, Unmapped table cons c) (h : conv table cons bound out = some out) :
    IdemInv table cons bound s (u ++ out) := by
  refine ⟨by rw [conv_unmapped_prefix hk u out hu, h]; rfl, [], u ++ out, rfl, List.nil_prefix, ?_⟩
  cases u with
  | nil => exact absurd rfl hne
  | cons x xs => exact fun d hd => Option.some.inj hd ▸ hu x List.mem_cons_self

theorem IdemInv.step (hk : noEmptyKey table = true)
    (hv : ∀ kv ∈ table, kv.2 ≠ [] ∧ ∀ c ∈ kv.2, Unmapped table cons c)
    {r v rest out : Str} (hs : sokuonP cons r = false) (hstep : stepKey table bound r = some (v, rest))
    (ih : IdemInv table cons bound rest out) : IdemInv table cons bound r (v ++ out) := by
  cases hf : findKey table r bound 0 with
  | some p =>
    cases (stepKey_of_some hk hf).symm.trans hstep
    obtain ⟨hvne, hvu⟩ := hv _ (assoc_mem ((findKey_eq_some_iff ..).1 hf).2.2.1)
    exact IdemInv.of_unmapped_prefix hk _ hvne hvu ih.fixed
  | none =>
    -- a character was passed through: the dead end it stood at is one of the output, too
    cases r with
    | nil => simp [stepKey, hf] at hstep
    | cons c rt =>
      cases (stepKey_of_none hf).symm.trans hstep
      obtain ⟨B, z, rfl, hB, hz⟩ := ih.shared
      obtain ⟨h1, h2⟩ := deadEnd_of_shared hz hB hs hf
      refine ⟨?_, c :: B, z, rfl, List.cons_prefix_cons.2 ⟨rfl, hB⟩, hz⟩
      rw [List.singleton_append, conv_cons hk, stripSokuon_of_not cons _ h1, stepKey_of_none h2, Option.bind_some,
        ih.fixed]
      rfl

theorem idem_main (hk : noEmptyKey table = true)
    (hv : ∀ kv ∈ table, kv.2 ≠ [] ∧ ∀ c ∈ kv.2, Unmapped table cons c)
    (hso : Unmapped table cons 0x3063) (s : Str) :
    ∀ out, conv table cons bound s = some out → IdemInv table cons bound s out := by
  induction s using conv_induct cons bound hk with
  | nil =>
    intro out h
    cases conv_nil.symm.trans h
    exact ⟨conv_nil, [], [], rfl, List.nil_prefix, nofun⟩
  | step a t v rest hstep ih =>
    intro out h
    rw [conv_cons hk, hstep, Option.bind_some] at h
    obtain ⟨out', hcr, rfl⟩ := Option.map_eq_some_iff.1 h
    have hs := stripSokuon_spec cons (a :: t)
    have hcore := IdemInv.step hk hv hs.1 hstep (ih out' hcr)
    -- put the emitted っ in front
    by_cases hen : sokuonP cons (a :: t) = true
    · rw [List.append_assoc]
      refine IdemInv.of_unmapped_prefix hk _ ?_ (fun c hc => by rw [hs.2.2.2 c hc]; exact hso) hcore.fixed
      rw [stripSokuon_cons, if_pos hen]
      exact List.cons_ne_nil _ _
    · rw [stripSokuon_of_not cons _ (Bool.not_eq_true _ ▸ hen)] at hcore ⊢
      exact hcore

theorem conv_idempotent (hk : noEmptyKey table = true)
    (hv : ∀ kv ∈ table, kv.2 ≠ [] ∧ ∀ c ∈ kv.2, Unmapped table cons c)
    (hso : Unmapped table cons 0x3063) (s out : Str) (h : conv table cons bound s = some out) :
    conv table cons bound out = some out :=
  (idem_main hk hv hso s out h).fixed

/-- A condition that is cheap to evaluate: keys and consonants lie below `N`, values and っ do not (the
client's keys are ASCII, its kana are not). -/
theorem conv_idempotent_of_split (N : Nat) (hk : noEmptyKey table = true)
    (hsplit : (table.all fun kv => kv.1.all (· < N) && !kv.2.isEmpty && kv.2.all (N ≤ ·)) = true)
    (hcons : cons.all (· < N) = true) (hso : N ≤ 0x3063) (s out : Str)
    (h : conv table cons bound s = some out) : conv table cons bound out = some out := by
  have hsplit : ∀ kv ∈ table, ((∀ c ∈ kv.1, c < N) ∧ kv.2 ≠ []) ∧ ∀ c ∈ kv.2, N ≤ c := fun kv hkv => by
    simpa only [Bool.and_eq_true, List.all_eq_true, decide_eq_true_eq, Bool.not_eq_true', List.isEmpty_eq_false_iff]
      using List.all_eq_true.1 hsplit kv hkv
  have hu : ∀ c, N ≤ c → Unmapped table cons c := fun c hc => by
    refine ⟨Bool.eq_false_iff.2 fun h => ?_, Bool.eq_false_iff.2 fun h => ?_⟩
    · obtain ⟨kv, hkv, hm⟩ := keyChar_iff.1 h
      exact Nat.not_lt.2 hc ((hsplit kv hkv).1.1 c hm)
    · exact Nat.not_lt.2 hc (of_decide_eq_true (List.all_eq_true.1 hcons c ((memNat_iff c cons).1 h)))
  exact conv_idempotent hk (fun kv hkv => ⟨(hsplit kv hkv).1.2, fun c hc => hu c ((hsplit kv hkv).2 c hc)⟩)
    (hu _ hso) s out h

end Chokan.Romaji
