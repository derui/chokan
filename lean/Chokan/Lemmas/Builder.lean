/-
The reading → words map and the trie key set that chokan-dic's builder fills and the server's updater extends
(`addToMap`, `findMap` of Chokan.Model.Kkc; the key insertion as both write it): what a look-up sees after an insertion.
The builder's sort in front of its fold (`sortWords` of Chokan.Model.Server) permutes the words.
-/
import Chokan.Model.Server
import Chokan.Lemmas.Kkc

namespace Chokan.Kkc
open Chokan.Dic

theorem findMap_addToMap (key' key : Str) (w : Word) : ∀ m : List (Str × List Word),
    findMap key' (addToMap m key w) = if key' = key then some ((findMap key m).getD [] ++ [w]) else findMap key' m
  | [] => by
    simp only [addToMap, findMap, beqStr_iff, eq_comm (a := key)]
    rfl
  | (k, v) :: t => by
    simp only [addToMap, beqStr_iff]
    by_cases hk : k = key
    · subst hk
      by_cases h : key' = k
      · subst h
        simp [findMap, beqStr_iff]
      · simp [findMap, beqStr_iff, h, Ne.symm h]
    · simp only [hk, if_false, findMap, beqStr_iff, findMap_addToMap key' key w t]
      by_cases h : k = key'
      · subst h
        simp [hk]
      · simp [h]

theorem getD_findMap_addToMap (key' key : Str) (w : Word) (m : List (Str × List Word)) :
    (findMap key' (addToMap m key w)).getD [] = (findMap key' m).getD [] ++ if key' = key then [w] else [] := by
  rw [findMap_addToMap]
  split
  · next h =>
    subst h
    rfl
  · exact (List.append_nil _).symm

theorem forall_mem_addToMap (P : Str × List Word → Prop) (key : Str) (w : Word) (h0 : P (key, [w]))
    (h1 : ∀ v, P (key, v) → P (key, v ++ [w])) :
    ∀ m : List (Str × List Word), (∀ p ∈ m, P p) → ∀ p ∈ addToMap m key w, P p
  | [], _ => List.forall_mem_singleton.2 h0
  | (k, v) :: t, hm => by
    rw [List.forall_mem_cons] at hm
    rw [addToMap]
    split
    · next hk =>
      obtain rfl := (beqStr_iff k key).1 hk
      exact List.forall_mem_cons.2 ⟨h1 v hm.1, hm.2⟩
    · exact List.forall_mem_cons.2 ⟨hm.1, forall_mem_addToMap P key w h0 h1 t hm.2⟩

/-- `trie.insert(&r)` with its error ignored, as `addStdWord` and `buildMap` write it (`ok`: the reading is spelled in
the alphabet). -/
theorem any_trieInsert (ok : Bool) (keys : List Str) (r k : Str) :
    (if ok && !(keys.any (beqStr r)) then keys ++ [r] else keys).any (beqStr k) =
      (keys.any (beqStr k) || (ok && beqStr k r)) := by
  cases ok
  · simp
  · cases hr : keys.any (beqStr r)
    · simp
    · cases hkr : beqStr k r
      · simp
      · rw [(beqStr_iff k r).1 hkr, hr]
        exact hr

end Chokan.Kkc

namespace Chokan.Server
open Chokan.Dic

theorem insertSorted_perm (w : Word) : ∀ l : List Word, (insertSorted w l).Perm (w :: l)
  | [] => .refl _
  | y :: t => by
    rw [insertSorted]
    split
    · exact .refl _
    · exact ((insertSorted_perm w t).cons y).trans (.swap w y t)

theorem sortWords_perm : ∀ l : List Word, (sortWords l).Perm l
  | [] => .nil
  | w :: t => (insertSorted_perm w _).trans ((sortWords_perm t).cons w)

end Chokan.Server
