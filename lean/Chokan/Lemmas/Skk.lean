/-
Lemmas for C18 about the SKK-JISYO line model: its reading class lies in the dictionary text format's,
and a printer of SKK lines (`printSkk`) whose candidate list `parseKanjis` reads back; `converters_spec`:
what the three converters emit for a parsed line.
-/
import Chokan.Model.Skk
import Chokan.Props.C10

namespace Chokan.Skk
open Chokan.Dic Chokan.DicText Chokan.Props

theorem skkKana_in_dic_class (c : Nat) (h : skkKana c = true) :
    isKana Chokan.Gen.DicGrammar.kanaClass c = true := by
  simp only [skkKana, Bool.or_eq_true, Bool.and_eq_true, Nat.ble_eq, Nat.beq_eq] at h
  by_cases hc : c = 0x30FC
  · subst hc; decide +kernel
  · exact C10.C10_kana_class c (by omega) (by omega)

/-- a candidate as it is written in an SKK line: the word and, optionally, an annotation after `;` -/
structure Written where
  word : Str
  annot : Option Str

def printCand (w : Written) : Str :=
  w.word ++ (match w.annot with | some a => 59 :: a | none => []) ++ [47]

/-- `reading okuri blanks /cand/cand/…/` -/
def printSkk (reading okuri sp : Str) (ws : List Written) : Str :=
  reading ++ (okuri ++ (sp ++ 47 :: (ws.map printCand).flatten))

structure WrittenOK (w : Written) : Prop where
  ne : w.word ≠ []
  chars : ∀ c ∈ w.word, isKanjiCh c = true
  annot : ∀ a, w.annot = some a → ∀ c ∈ a, notSlash c = true

theorem parseKanji_print (w : Written) (hw : WrittenOK w) (rest : Str) :
    parseKanji (printCand w ++ rest) = some (w.word, rest) := by
  obtain ⟨word, annot⟩ := w
  obtain ⟨c, t, rfl⟩ := List.exists_cons_of_ne_nil hw.ne
  unfold parseKanji printCand
  cases annot with
  | none =>
    have := spanClass_append isKanjiCh (c :: t) 47 rest hw.chars (by decide)
    simp only [List.cons_append, List.append_nil, List.append_assoc, List.nil_append] at this ⊢
    simp only [this]
  | some a =>
    have h1 := spanClass_append isKanjiCh (c :: t) 59 (a ++ 47 :: rest) hw.chars (by decide)
    have h2 := spanClass_append notSlash a 47 rest (hw.annot a rfl) (by decide)
    simp only [List.cons_append, List.append_assoc, List.nil_append] at h1 ⊢
    simp only [h1, h2]

theorem alpha_not_kana (c : Nat) (h : isAlpha c = true) : skkKana c = false := by
  refine Bool.eq_false_iff.2 fun hk => ?_
  simp only [isAlpha, skkKana, Bool.or_eq_true, Bool.and_eq_true, Nat.ble_eq, Nat.beq_eq] at h hk
  omega

/-- The fuel is bounded by the length of the text: every candidate is at least its closing `/` long. -/
theorem parseKanjis_print : ∀ (ws : List Written) (fuel : Nat), (∀ w ∈ ws, WrittenOK w) →
    (ws.map printCand).flatten.length < fuel →
    parseKanjis fuel (ws.map printCand).flatten = (ws.map (·.word), [])
  | [], fuel, _, hf => by
    cases fuel with
    | zero => cases hf
    | succ n => simp [parseKanjis, parseKanji, spanClass]
  | w :: t, fuel, hok, hf => by
    cases fuel with
    | zero => cases hf
    | succ n =>
      have ih := parseKanjis_print t n (fun x hx => hok x (List.mem_cons_of_mem _ hx))
        (by simp only [List.map_cons, List.flatten_cons, printCand, List.length_append, List.length_cons] at hf; omega)
      simp only [List.map_cons, List.flatten_cons, parseKanjis]
      rw [parseKanji_print w (hok w List.mem_cons_self)]
      simp [ih]

theorem space_not_kana_alpha (c : Nat) (h : isSpace c = true) : skkKana c = false ∧ isAlpha c = false := by
  simp only [isSpace, Bool.or_eq_true] at h
  rcases h with h | h <;> (have := Nat.eq_of_beq_eq_true h; subst this; decide)

theorem converters_spec (s : Str) (es : List Entry)
    (h : parseNouns s = some (some es) ∨ parsePropers s = some (some es) ∨ parseTankan s = some (some es)) :
    ∃ se, parseSkk s = some se ∧ ∀ e ∈ es, e.stemReading = se.reading ∧ e.stem ∈ se.words ∧
      (e.speech = .noun .common ∨ e.speech = .noun .proper) := by
  rcases h with h | h | h <;> obtain ⟨se, hp, hf⟩ := Option.map_eq_some_iff.1 h <;> refine ⟨se, hp, fun e he => ?_⟩
  · split at hf
    · cases hf
    · cases hf; obtain ⟨w, hw, rfl⟩ := List.mem_map.1 he; exact ⟨rfl, hw, .inl rfl⟩
  · cases hf; obtain ⟨w, hw, rfl⟩ := List.mem_map.1 he; exact ⟨rfl, hw, .inr rfl⟩
  · simp only at hf
    split at hf
    · cases hf
    · cases hf; obtain ⟨w, hw, rfl⟩ := List.mem_map.1 he; exact ⟨rfl, (List.mem_filter.1 hw).1, .inl rfl⟩

end Chokan.Skk
