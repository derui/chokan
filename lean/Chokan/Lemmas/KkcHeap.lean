/-
The replica of `std::collections::BinaryHeap` is a priority queue (C02).

Contents: `siftUp` and `siftDownToBottom` only exchange stored elements, so `heapPush` and `heapPop`
permute the array (`heapPush_perm`, `heapPop_perm`); membership and size follow from that.

Order: `sift_down_to_bottom` moves the hole to a leaf following the greater child without looking at the
moving element, `sift_up` then restores the order; `DownInv` and `UpInv` say where the order may be broken
in between.  The parent index `(i - 1) / 2` is replaced once (`par_iff`) by the relation `Par p c`, and the
order is stated on the priorities `keyAt h i` read at the indices (0 beyond the end: a missing child is below
everything), so that each exchange is one lemma about an array `h'` of which only the priorities are known
(`IsSwap`).
-/
import Chokan.Model.Kkc

namespace Chokan.Kkc

theorem lt_size_of_get {h : Heap} {i : Nat} {x : Cand} (hx : h[i]? = some x) : i < h.size :=
  (Array.getElem?_eq_some_iff.1 hx).1

theorem get_of_lt {h : Heap} {i : Nat} (hi : i < h.size) : ∃ a, h[i]? = some a :=
  ⟨h[i], Array.getElem?_eq_getElem hi⟩

theorem swap_perm (h : Heap) (i j : Nat) (a b : Cand) (hi : h[i]? = some b) (hj : h[j]? = some a) :
    ((h.set! i a).set! j b).Perm h := by
  obtain ⟨hil, rfl⟩ := Array.getElem_of_getElem? hi
  obtain ⟨hjl, rfl⟩ := Array.getElem_of_getElem? hj
  apply Array.Perm.of_toList_perm
  simpa using List.set_set_perm (as := h.toList) hil hjl

/- `fun_induction` numbers the branches of the function in source order.  `siftUp`: 1 out of fuel, 2 parent not
smaller, 3 exchange and go on, 4 a lookup fails, 5 `pos ≤ start`.  `siftDownToBottom`: 1 out of fuel, 2 two children
(exchange and go on), 3 a lookup fails, 4 a single child, 5 a lookup fails, 6 no child. -/
theorem siftUp_perm (fuel : Nat) (h : Heap) (start pos : Nat) : (siftUp h start fuel pos).Perm h := by
  fun_induction siftUp h start fuel pos with
  | case3 h _ pos _ _ e p hp he _ ih => exact ih.trans (swap_perm h pos _ p e he hp)
  | _ => exact .refl _

theorem siftDown_perm (fuel : Nat) (h : Heap) (end_ pos : Nat) : (siftDownToBottom h end_ fuel pos).1.Perm h := by
  fun_induction siftDownToBottom h end_ fuel pos with
  | case2 h _ pos _ _ a b e he hb ha c x ih =>
    have hx : h[c]? = some x := by
      unfold c x
      split
      · exact hb
      · exact ha
    exact ih.trans (swap_perm h pos c x e he hx)
  | case4 h _ pos _ _ _ a e he ha => exact swap_perm h pos _ a e he ha
  | _ => exact .refl _

theorem heapPush_perm (h : Heap) (c : Cand) : (heapPush h c).Perm (h.push c) :=
  siftUp_perm _ _ _ _

theorem replaceRoot_perm (a : Heap) (top last : Cand) (ht : a[0]? = some top) :
    ((a.set! 0 last).push top).Perm (a.push last) := by
  obtain ⟨l⟩ := a
  cases l with
  | nil => simp at ht
  | cons x tl =>
    obtain rfl : x = top := by simpa using ht
    apply Array.Perm.of_toList_perm
    simpa using (List.perm_append_singleton x (last :: tl)).trans
      ((List.Perm.swap _ _ _).trans ((List.perm_append_singleton last (x :: tl)).symm))

theorem heapPop_perm (h : Heap) (c : Cand) (h' : Heap) (hp : heapPop h = some (c, h')) :
    (h'.push c).Perm h := by
  unfold heapPop at hp
  cases hb : h.back? with
  | none => simp [hb] at hp
  | some last =>
    obtain ⟨ys, rfl⟩ := Array.back?_eq_some_iff.1 hb
    simp only [hb, Array.pop_push] at hp
    split at hp
    · obtain ⟨rfl, rfl⟩ : last = c ∧ ys = h' := by simpa using hp
      exact .refl _
    · cases ht : ys[0]? with
      | none =>
        obtain ⟨rfl, rfl⟩ : last = c ∧ ys = h' := by simpa [ht] using hp
        exact .refl _
      | some top =>
        simp only [ht, Option.some.injEq, Prod.mk.injEq] at hp
        obtain ⟨rfl, rfl⟩ := hp
        exact (((siftUp_perm _ _ _ _).trans (siftDown_perm _ _ _ _)).push top).trans (replaceRoot_perm _ _ _ ht)

theorem heapPush_mem (h : Heap) (c x : Cand) : x ∈ heapPush h c ↔ (x ∈ h ∨ x = c) :=
  (heapPush_perm h c).mem_iff.trans Array.mem_push

theorem heapPop_mem (h : Heap) (c : Cand) (h' : Heap) (hp : heapPop h = some (c, h')) (x : Cand) :
    x ∈ h ↔ (x ∈ h' ∨ x = c) :=
  (heapPop_perm h c h' hp).mem_iff.symm.trans Array.mem_push

theorem siftUp_size : ∀ (fuel : Nat) (h : Heap) (start pos : Nat),
    (siftUp h start fuel pos).size = h.size :=
  fun fuel h start pos => (siftUp_perm fuel h start pos).size_eq

theorem heapPop_none (h : Heap) : heapPop h = none → h = #[] := by
  fun_cases heapPop h with
  | case1 hb => exact fun _ => Array.back?_eq_none_iff.1 hb
  | _ => exact fun hp => nomatch hp

theorem heapPush_empty (c : Cand) : heapPush #[] c = #[c] := by
  simp [heapPush, siftUp]

theorem heapPop_single (c : Cand) : heapPop #[c] = some (c, #[]) := by
  simp [heapPop]

/-- The element at `i` is not greater than the one at its parent. -/
def EdgeOK (h : Heap) (i : Nat) : Prop :=
  ∀ x p, h[i]? = some x → h[(i - 1) / 2]? = some p → x.priority ≤ p.priority

def HeapOK (h : Heap) : Prop := ∀ i, 0 < i → EdgeOK h i

def Par (p c : Nat) : Prop := c = 2 * p + 1 ∨ c = 2 * p + 2

theorem par_iff {i p : Nat} (hi : 0 < i) : (i - 1) / 2 = p ↔ Par p i := by
  unfold Par; omega

theorem par_parent {i : Nat} (hi : 0 < i) : Par ((i - 1) / 2) i := (par_iff hi).1 rfl

theorem Par.lt {p c : Nat} (h : Par p c) : p < c := by
  unfold Par at h; omega

theorem Par.pos {p c : Nat} (h : Par p c) : 0 < c := Nat.lt_of_le_of_lt (Nat.zero_le p) h.lt

theorem Par.inj {p q c : Nat} (h1 : Par p c) (h2 : Par q c) : p = q :=
  ((par_iff h1.pos).2 h1).symm.trans ((par_iff h1.pos).2 h2)

def keyAt (h : Heap) (i : Nat) : Nat :=
  match h[i]? with
  | some x => x.priority
  | none => 0

theorem keyAt_of_get {h : Heap} {i : Nat} {x : Cand} (hx : h[i]? = some x) : keyAt h i = x.priority := by
  rw [keyAt, hx]

theorem keyAt_of_le {h : Heap} {i : Nat} (hi : h.size ≤ i) : keyAt h i = 0 := by
  rw [keyAt, Array.getElem?_eq_none hi]

theorem heapOK_iff (h : Heap) : HeapOK h ↔ ∀ p c, Par p c → keyAt h c ≤ keyAt h p := by
  constructor
  · intro hh p c hpc
    rcases Nat.lt_or_ge c h.size with hc | hc
    · obtain ⟨x, hx⟩ := get_of_lt hc
      obtain ⟨y, hy⟩ := get_of_lt (Nat.lt_trans hpc.lt hc)
      rw [keyAt_of_get hx, keyAt_of_get hy]
      exact hh c hpc.pos x y hx (by rw [(par_iff hpc.pos).2 hpc]; exact hy)
    · rw [keyAt_of_le hc]
      exact Nat.zero_le _
  · intro H i hi x p hx hp
    have := H _ _ (par_parent hi)
    rwa [keyAt_of_get hx, keyAt_of_get hp] at this

/-- Heap order everywhere except on the edge into `pos`; the children of `pos` are already below the
parent of `pos`. -/
def UpInv (h : Heap) (pos : Nat) : Prop :=
  (∀ p c, Par p c → c ≠ pos → keyAt h c ≤ keyAt h p) ∧ (∀ gp c, Par gp pos → Par pos c → keyAt h c ≤ keyAt h gp)

/-- Heap order everywhere except on the edges into and out of `pos`. -/
def DownInv (h : Heap) (pos : Nat) : Prop :=
  (∀ p c, Par p c → c ≠ pos → p ≠ pos → keyAt h c ≤ keyAt h p) ∧
    (∀ gp c, Par gp pos → Par pos c → keyAt h c ≤ keyAt h gp)

theorem keyAt_set!_ne (h : Heap) {i k : Nat} (a : Cand) (hk : k ≠ i) : keyAt (h.set! i a) k = keyAt h k := by
  rw [keyAt, Array.set!_eq_setIfInBounds, Array.getElem?_setIfInBounds_ne (Ne.symm hk), keyAt]

structure IsSwap (h h' : Heap) (i j : Nat) : Prop where
  at_i : keyAt h' i = keyAt h j
  at_j : keyAt h' j = keyAt h i
  other : ∀ k, k ≠ i → k ≠ j → keyAt h' k = keyAt h k
  size : h'.size = h.size

theorem isSwap_set! {h : Heap} {i j : Nat} {a b : Cand} (hi : h[i]? = some b) (hj : h[j]? = some a) (hij : i ≠ j) :
    IsSwap h ((h.set! i a).set! j b) i j := by
  refine ⟨?_, ?_, fun k hki hkj => ?_, ?_⟩
  · rw [keyAt_set!_ne _ _ hij, keyAt_of_get hj]
    exact keyAt_of_get (Array.getElem?_setIfInBounds_self_of_lt (lt_size_of_get hi))
  · rw [keyAt_of_get hi]
    exact keyAt_of_get (Array.getElem?_setIfInBounds_self_of_lt (by rw [Array.size_set!]; exact lt_size_of_get hj))
  · rw [keyAt_set!_ne _ _ hkj, keyAt_set!_ne _ _ hki]
  · rw [Array.size_set!, Array.size_set!]

theorem upInv_stop {h : Heap} {pos : Nat} (hI : UpInv h pos) (hst : ∀ q, Par q pos → keyAt h pos ≤ keyAt h q) :
    HeapOK h :=
  (heapOK_iff h).2 fun p c hpc => by
    by_cases hc : c = pos
    · rw [hc] at hpc ⊢; exact hst p hpc
    · exact hI.1 p c hpc hc

theorem upInv_zero {h : Heap} (hI : UpInv h 0) : HeapOK h :=
  upInv_stop hI fun _ hq => absurd hq.pos (Nat.lt_irrefl 0)

theorem upInv_swap {h h' : Heap} {pos par : Nat} (hI : UpInv h pos) (hpar : Par par pos)
    (hlt : keyAt h par < keyAt h pos) (hs : IsSwap h h' pos par) : UpInv h' par := by
  have hle := Nat.le_of_lt hlt
  constructor
  · intro q c hqc hcpar
    by_cases hcpos : c = pos
    · -- the demoted parent sits below the promoted element
      rw [hcpos] at hqc ⊢
      rw [← Par.inj hpar hqc, hs.at_i, hs.at_j]
      exact hle
    · rw [hs.other c hcpos hcpar]
      by_cases hq1 : q = par
      · -- a sibling of `pos`: it was below the demoted parent
        rw [hq1] at hqc ⊢
        rw [hs.at_j]
        exact Nat.le_trans (hI.1 par c hqc hcpos) hle
      · by_cases hq2 : q = pos
        · -- a child of `pos`: below `par` by the second clause of `UpInv`
          rw [hq2] at hqc ⊢
          rw [hs.at_i]
          exact hI.2 par c hpar hqc
        · rw [hs.other q hq2 hq1]
          exact hI.1 q c hqc hcpos
  · intro gp c hgp hc
    rw [hs.other gp (Nat.ne_of_lt (Nat.lt_trans hgp.lt hpar.lt)) (Nat.ne_of_lt hgp.lt)]
    have hpg : keyAt h par ≤ keyAt h gp := hI.1 gp par hgp (Nat.ne_of_lt hpar.lt)
    by_cases hcpos : c = pos
    · rw [hcpos, hs.at_i]
      exact hpg
    · rw [hs.other c hcpos (Nat.ne_of_gt hc.lt)]
      exact Nat.le_trans (hI.1 par c hc hcpos) hpg

theorem downInv_swap {h h' : Heap} {pos c : Nat} (hI : DownInv h pos) (hc : Par pos c)
    (hsib : ∀ c', Par pos c' → keyAt h c' ≤ keyAt h c) (hs : IsSwap h h' pos c) : DownInv h' c := by
  constructor
  · intro q d hqd hdc hqc
    by_cases hdpos : d = pos
    · -- the promoted child is below the parent of `pos`
      rw [hdpos] at hqd ⊢
      rw [hs.at_i, hs.other q (Nat.ne_of_lt hqd.lt) hqc]
      exact hI.2 q c hqd hc
    · rw [hs.other d hdpos hdc]
      by_cases hqpos : q = pos
      · -- the other child of `pos`: `c` holds the greater one
        rw [hqpos] at hqd ⊢
        rw [hs.at_i]
        exact hsib d hqd
      · rw [hs.other q hqpos hqc]
        exact hI.1 q d hqd hdpos hqpos
  · intro gp d hgp hd
    have hdp : d ≠ pos := Nat.ne_of_gt (Nat.lt_trans hc.lt hd.lt)
    rw [Par.inj hgp hc, hs.at_i, hs.other d hdp (Nat.ne_of_gt hd.lt)]
    exact hI.1 c d hd hdp (Nat.ne_of_gt hc.lt)

theorem downInv_leaf {h : Heap} {pos : Nat} (hI : DownInv h pos) (hleaf : ∀ c, Par pos c → h.size ≤ c) :
    UpInv h pos := by
  refine ⟨fun p c hpc hcpos => ?_, hI.2⟩
  by_cases hp : p = pos
  · rw [keyAt_of_le (hleaf c (hp ▸ hpc))]
    exact Nat.zero_le _
  · exact hI.1 p c hpc hcpos hp

theorem siftUp_ok (fuel : Nat) (h : Heap) (pos : Nat) : pos ≤ fuel → pos < h.size → UpInv h pos →
    HeapOK (siftUp h 0 fuel pos) := by
  fun_induction siftUp h 0 fuel pos with
  | case1 h pos =>
    intro hf _ hI
    obtain rfl : pos = 0 := Nat.le_zero.1 hf
    exact upInv_zero hI
  | case2 h fuel pos hpos par e p hp he hle =>
    intro _ _ hI
    exact upInv_stop hI fun q hq => by
      rw [← Par.inj (par_parent hpos) hq, keyAt_of_get he, keyAt_of_get hp]
      exact hle
  | case3 h fuel pos hpos par e p hp he hle ih =>
    intro hf hlt hI
    have hpar : Par par pos := par_parent hpos
    have hs := isSwap_set! he hp (Nat.ne_of_gt hpar.lt)
    exact ih (Nat.le_of_lt_succ (Nat.lt_of_lt_of_le hpar.lt hf)) (by rw [hs.size]; exact Nat.lt_trans hpar.lt hlt)
      (upInv_swap hI hpar (by rw [keyAt_of_get he, keyAt_of_get hp]; exact Nat.lt_of_not_le hle) hs)
  | case4 h fuel pos hpos par hno =>
    intro _ hlt _
    obtain ⟨e, he⟩ := get_of_lt hlt
    obtain ⟨p, hp⟩ := get_of_lt (Nat.lt_trans (par_parent hpos).lt hlt)
    exact (hno e p he hp).elim
  | case5 h fuel pos hpos =>
    intro _ _ hI
    obtain rfl : pos = 0 := Nat.eq_zero_of_not_pos hpos
    exact upInv_zero hI

theorem heapPush_ok (h : Heap) (c : Cand) (hh : HeapOK h) : HeapOK (heapPush h c) := by
  unfold heapPush
  have hk : ∀ k, k ≠ h.size → keyAt (h.push c) k = keyAt h k := fun k hk => by
    rw [keyAt, Array.getElem?_push, if_neg hk, keyAt]
  have hbeyond : ∀ k, h.size < k → keyAt (h.push c) k = 0 := fun k hk =>
    keyAt_of_le (by rw [Array.size_push]; exact hk)
  refine siftUp_ok _ _ _ (by simp) (by simp) ?_
  simp only [Array.size_push, Nat.add_sub_cancel]
  constructor
  · intro p d hpd hd
    by_cases hp : p = h.size
    · rw [hbeyond d (hp ▸ hpd.lt)]
      exact Nat.zero_le _
    · rw [hk d hd, hk p hp]
      exact (heapOK_iff h).1 hh p d hpd
  · intro gp d _ hd
    rw [hbeyond d hd.lt]
    exact Nat.zero_le _

def DownPost (n : Nat) (r : Heap × Nat) : Prop := UpInv r.1 r.2 ∧ r.1.size = n ∧ r.2 < n

theorem DownPost.intro {n : Nat} {a : Heap} {k : Nat} (h1 : UpInv a k) (h2 : a.size = n) (h3 : k < n) :
    DownPost n (a, k) := ⟨h1, h2, h3⟩

/-- The loop condition `child <= end.saturating_sub(2)` of `sift_down_to_bottom`: two children. -/
theorem twoChildren_iff (n pos : Nat) : (2 * pos + 1 ≤ n - 2 ∧ 2 ≤ n) ↔ 2 * pos + 2 < n := by omega

/-- Its final test `child == end - 1`: a single child, the last element. -/
theorem oneChild_iff (n pos : Nat) : (2 * pos + 1 = n - 1 ∧ 1 ≤ n) ↔ n = 2 * pos + 2 := by omega

theorem siftDown_ok {n : Nat} (fuel : Nat) (h : Heap) (pos : Nat) : h.size = n → n ≤ fuel + pos → pos < n →
    DownInv h pos → DownPost n (siftDownToBottom h n fuel pos) := by
  fun_induction siftDownToBottom h n fuel pos with
  | case1 h pos =>
    intro _ hf hpl _
    omega
  | case2 h fuel pos child h2c a b e he hb ha c x ih =>
    intro hn hf _ hI
    have hka : keyAt h (2 * pos + 1) = a.priority := keyAt_of_get ha
    have hkb : keyAt h (2 * pos + 2) = b.priority := keyAt_of_get hb
    -- `c` is the child with the greater element, `x`
    obtain ⟨hc, hx, hsib⟩ : Par pos c ∧ h[c]? = some x ∧ ∀ c', Par pos c' → keyAt h c' ≤ keyAt h c := by
      unfold c x
      split
      · next hab =>
        refine ⟨Or.inr rfl, hb, ?_⟩
        rintro c' (rfl | rfl)
        · rw [hka, hkb]; exact hab
        · exact Nat.le_refl _
      · next hab =>
        refine ⟨Or.inl rfl, ha, ?_⟩
        rintro c' (rfl | rfl)
        · exact Nat.le_refl _
        · rw [hka, hkb]; exact Nat.le_of_lt (Nat.lt_of_not_le hab)
    have hs := isSwap_set! he hx (Nat.ne_of_lt hc.lt)
    have := hc.lt
    exact ih (hs.size.trans hn) (by omega) (hn ▸ lt_size_of_get hx) (downInv_swap hI hc hsib hs)
  | case3 h fuel pos child h2c hno =>
    intro hn _ hpl _
    subst hn
    replace h2c := (twoChildren_iff _ _).1 h2c
    obtain ⟨a, ha⟩ := get_of_lt (Nat.lt_of_succ_lt h2c)
    obtain ⟨b, hb⟩ := get_of_lt h2c
    obtain ⟨e, he⟩ := get_of_lt hpl
    exact (hno a b e ha hb he).elim
  | case4 h fuel pos child _ h1c a e he ha =>
    intro hn _ _ hI
    subst hn
    have hsz := (oneChild_iff _ _).1 h1c
    have hc : Par pos child := Or.inl rfl
    have hs := isSwap_set! he ha (Nat.ne_of_lt hc.lt)
    have hsib : ∀ c', Par pos c' → keyAt h c' ≤ keyAt h child := by
      rintro c' (rfl | rfl)
      · exact Nat.le_refl _
      · rw [keyAt_of_le (Nat.le_of_eq hsz)]; exact Nat.zero_le _
    refine DownPost.intro (downInv_leaf (downInv_swap hI hc hsib hs) fun d hd => ?_) hs.size (lt_size_of_get ha)
    have := hd.lt
    rw [hs.size]
    omega
  | case5 h fuel pos child _ h1c hno =>
    intro hn _ hpl _
    subst hn
    have hsz := (oneChild_iff _ _).1 h1c
    obtain ⟨a, ha⟩ := get_of_lt (h := h) (i := child) (by omega)
    obtain ⟨e, he⟩ := get_of_lt hpl
    exact (hno a e ha he).elim
  | case6 h fuel pos child h2c h1c =>
    intro hn _ hpl hI
    subst hn
    replace h2c := mt (twoChildren_iff _ _).2 h2c
    replace h1c := mt (oneChild_iff _ _).2 h1c
    refine DownPost.intro (downInv_leaf hI fun c hc => ?_) rfl hpl
    unfold Par at hc; omega

theorem root_max (h : Heap) (hh : HeapOK h) (i : Nat) : keyAt h i ≤ keyAt h 0 := by
  induction i using Nat.strongRecOn with
  | _ i ih =>
    by_cases h0 : i = 0
    · rw [h0]
      exact Nat.le_refl _
    · have hpar := par_parent (Nat.pos_of_ne_zero h0)
      exact Nat.le_trans ((heapOK_iff h).1 hh _ i hpar) (ih _ hpar.lt)

theorem heapOK_pop (h : Heap) (hh : HeapOK h) : HeapOK h.pop := by
  intro i hi x p hx hp
  rw [Array.getElem?_pop] at hx hp
  split at hx
  · split at hp
    · exact hh i hi x p hx hp
    · cases hp
  · cases hx

theorem heapPop_spec (h : Heap) (c : Cand) (h' : Heap) (hh : HeapOK h) (hp : heapPop h = some (c, h')) :
    HeapOK h' ∧ ∀ x ∈ h, x.priority ≤ c.priority := by
  have hmem := heapPop_mem h c h' hp
  have hok := heapOK_pop h hh
  unfold heapPop at hp
  cases hb : h.back? with
  | none => simp [hb] at hp
  | some last =>
    obtain ⟨ys, rfl⟩ := Array.back?_eq_some_iff.1 hb
    simp only [hb, Array.pop_push] at hp hok
    by_cases hemp : ys.isEmpty = true
    · simp only [hemp, if_true, Option.some.injEq, Prod.mk.injEq] at hp
      obtain ⟨rfl, rfl⟩ := hp
      refine ⟨hok, fun x hx => ?_⟩
      rcases (hmem x).1 hx with hx | rfl
      · rw [Array.isEmpty_iff.1 hemp] at hx
        exact absurd hx (Array.not_mem_empty x)
      · exact Nat.le_refl _
    · simp only [hemp, Bool.false_eq_true, if_false] at hp
      have h0lt : 0 < ys.size :=
        Nat.pos_of_ne_zero fun hh' => hemp (Array.isEmpty_iff_size_eq_zero.2 hh')
      obtain ⟨top, htop⟩ := get_of_lt h0lt
      simp only [htop, Option.some.injEq, Prod.mk.injEq] at hp
      obtain ⟨rfl, rfl⟩ := hp
      have htop' : (ys.push last)[0]? = some top := by
        rw [Array.getElem?_push, if_neg (Nat.ne_of_lt h0lt), htop]
      -- with `last` at the root the order can only be broken on the edges out of the root
      have hI0 : DownInv (ys.set! 0 last) 0 := by
        constructor
        · intro p d hpd hd hp0
          rw [keyAt_set!_ne _ _ hd, keyAt_set!_ne _ _ hp0]
          exact (heapOK_iff _).1 hok p d hpd
        · intro gp _ hgp; exact absurd hgp.pos (Nat.lt_irrefl 0)
      obtain ⟨hUp, hsz3, hposlt⟩ := siftDown_ok (ys.set! 0 last).size (ys.set! 0 last) 0 rfl
        (Nat.le_add_right _ 0) (by rw [Array.size_set!]; exact h0lt) hI0
      refine ⟨siftUp_ok _ _ _ (by rw [hsz3]; exact Nat.le_of_lt hposlt) (by rw [hsz3]; exact hposlt) hUp,
        fun x hx => ?_⟩
      obtain ⟨i, hi⟩ := Array.mem_iff_getElem?.1 hx
      have := root_max _ hh i
      rwa [keyAt_of_get hi, keyAt_of_get htop'] at this

end Chokan.Kkc
