/-
The lattice invariant (C01, C03): every node of the lattice built by `fromInput` covers exactly the
input characters its position and reading say, through all five construction passes and the
forward pass.

The passes of `Graph::from_input` are walked once, for an arbitrary property `Q j n` of the nodes `n` pushed at
position `j` (`fromInput_all`); `GraphOK` is the instance `NodeOK input n ∧ n.endAt = j`.  The forward
pass is in Lemmas/KkcForward.  `InG g a`: `a` is a node of the lattice.
-/
import Chokan.Lemmas.Kkc

namespace Chokan.Kkc
open Chokan.Dic

/-- Dictionary well-formedness: every word is stored under its own non-empty reading. -/
def Dict.WF (d : Dict) : Prop :=
  (∀ p ∈ d.std, p.1 ≠ [] ∧ ∀ w ∈ p.2, w.reading = p.1) ∧ (∀ p ∈ d.anc, p.1 ≠ [] ∧ ∀ w ∈ p.2, w.reading = p.1)

/-- A lattice node covers `input[endAt+1-len ..= endAt]` (a word) or a proper tail of the input (virtual). -/
def NodeOK (input : Str) : Node → Prop
  | .word e _ w _ => e < input.length ∧ w.reading ≠ [] ∧ w.reading.length ≤ e + 1 ∧
      slice input (e + 1 - w.reading.length) e = w.reading
  | .virt e _ s _ => s ≠ [] ∧ e + 1 = input.length ∧ s.length < input.length ∧
      input.drop (input.length - s.length) = s
  | .bos => False
  | .eos => False

def LatticeAll (N : Nat) (Q : Nat → Node → Prop) (g : Graph) : Prop :=
  g.length = N ∧ ∀ (j : Nat), ∀ n ∈ g.getD j [], Q j n

def GraphOK (input : Str) (g : Graph) : Prop :=
  LatticeAll input.length (fun j n => NodeOK input n ∧ n.endAt = j) g

theorem mem_getD_iff (g : Graph) (j : Nat) (v : Node) : v ∈ g.getD j [] ↔ ∃ l, g[j]? = some l ∧ v ∈ l :=
  List.getD_eq_getElem?_getD ▸ mem_getD_nil g[j]? v

theorem latticeAll_replicate {N : Nat} {Q : Nat → Node → Prop} : LatticeAll N Q (List.replicate N []) :=
  ⟨List.length_replicate, fun j n hn => by
    obtain ⟨l, hl, hn⟩ := (mem_getD_iff _ j n).1 hn
    rw [(List.mem_replicate.1 (List.mem_of_getElem? hl)).2] at hn
    cases hn⟩

theorem pushAt_length (g : Graph) (j : Nat) (mk : Nat → Node) : (pushAt g j mk).length = g.length := by
  unfold pushAt
  split <;> simp

theorem getD_pushAt (g : Graph) (j k : Nat) (mk : Nat → Node) :
    (pushAt g j mk).getD k [] =
      if j = k ∧ j < g.length then g.getD j [] ++ [mk (g.getD j []).length] else g.getD k [] := by
  unfold pushAt
  cases hj : g[j]? with
  | none =>
    have := List.getElem?_eq_none_iff.1 hj
    rw [if_neg (by omega)]
  | some l =>
    obtain ⟨hlt, rfl⟩ := List.getElem?_eq_some_iff.1 hj
    simp only [List.getD_eq_getElem?_getD, List.getElem?_set, hlt, and_true]
    split
    · next h => subst h; simp [hlt]
    · rfl

theorem pushAt_latticeAll {N : Nat} {Q : Nat → Node → Prop} {g : Graph} {j : Nat} {mk : Nat → Node}
    (hg : LatticeAll N Q g) (hmk : ∀ idx, Q j (mk idx)) : LatticeAll N Q (pushAt g j mk) := by
  refine ⟨(pushAt_length g j mk).trans hg.1, fun k n hn => ?_⟩
  rw [getD_pushAt] at hn
  split at hn
  · next h =>
    obtain ⟨rfl, _⟩ := h
    rcases List.mem_append.1 hn with hn | hn
    · exact hg.2 j n hn
    · rw [List.mem_singleton.1 hn]
      exact hmk _
  · exact hg.2 k n hn

theorem pushWords_latticeAll {N : Nat} {Q : Nat → Node → Prop} {g : Graph} {j : Nat} {ws : List Word}
    (hg : LatticeAll N Q g) (hws : ∀ w ∈ ws, ∀ idx, Q j (.word j idx w (some 0))) :
    LatticeAll N Q (pushWords g j ws) :=
  List.foldlRecOn ws _ hg fun _ hb w hw => pushAt_latticeAll hb (hws w hw)

theorem fromInput_all {Q : Nat → Node → Prop} (t : Tables) (input : Str) (d : Dict) (ctx : Ctx) (g : Graph)
    (hstd : ∀ i j idx w, i ≤ j → j < input.length → w ∈ lookup d.stdTrie d.std (slice input i j) →
      Q j (.word j idx w (some 0)))
    (hanc : ∀ i j idx w, i ≤ j → j < input.length → w ∈ lookup d.ancTrie d.anc (slice input i j) →
      Q j (.word j idx w (some 0)))
    (hre : ∀ j n idx, Q j n → Q n.endAt (reindex n idx))
    (hvirt : ∀ i idx, i + 1 < input.length →
      Q (input.length - 1) (.virt (input.length - 1) idx (input.drop (i + 1)) (some 0)))
    (hg : fromInput t input d ctx = some g) : LatticeAll input.length Q g := by
  obtain rfl : completeVirtual _ input = g := Option.some.inj hg
  have hA : LatticeAll input.length Q (findAncillary input d) := by
    refine List.foldlRecOn _ _ latticeAll_replicate fun _ hb i _ => ?_
    refine List.foldlRecOn _ _ hb fun _ hb' k hk => ?_
    have hlt : i + k < input.length := Nat.add_lt_of_lt_sub' (List.mem_range.1 hk)
    exact pushWords_latticeAll hb' fun w hw idx => hanc i (i + k) idx w (Nat.le_add_right i k) hlt hw
  -- completeVirtual (mergeAncillaries (findWordAfterPrefix (findWordOnlyFirst ..))): a `foldl` each, innermost first
  refine List.foldlRecOn _ _ (List.foldlRecOn _ _ (List.foldlRecOn _ _
    (List.foldlRecOn _ _ latticeAll_replicate ?_) ?_) ?_) ?_
  · -- findWordOnlyFirst
    intro b hb i hi
    exact pushWords_latticeAll hb fun w hw idx => hstd 0 i idx w (Nat.zero_le _) (List.mem_range.1 hi) hw
  · -- findWordAfterPrefix
    intro b hb p _
    refine List.foldlRecOn _ _ hb fun _ hb' k hk => ?_
    have hlt : p.endAt + 1 + k < input.length := Nat.add_lt_of_lt_sub' (List.mem_range.1 hk)
    exact pushWords_latticeAll hb' fun w hw idx =>
      hstd (p.endAt + 1) (p.endAt + 1 + k) idx w (Nat.le_add_right _ k) hlt hw
  · -- mergeAncillaries
    intro b hb node hnode
    split
    · obtain ⟨l, hl, hnl⟩ := List.mem_flatten.1 hnode
      obtain ⟨j, hj, rfl⟩ := List.getElem_of_mem hl
      exact pushAt_latticeAll hb fun idx => hre j node idx (hA.2 j node (List.getElem_eq_getD [] ▸ hnl))
    · exact hb
  · -- completeVirtual
    intro b hb i hi
    split
    · have hlt : i + 1 < input.length := Nat.add_lt_of_lt_sub (List.mem_range.1 (List.mem_reverse.1 hi))
      exact pushAt_latticeAll hb fun idx => hvirt i idx hlt
    · exact hb

theorem slice_length (input : Str) (i j : Nat) (hij : i ≤ j) (hj : j < input.length) :
    i + (slice input i j).length = j + 1 := by
  simp only [slice, List.length_take, List.length_drop]
  omega

theorem wordNode_ok (input : Str) (i j idx : Nat) (w : Word) (hij : i ≤ j) (hj : j < input.length)
    (hr : w.reading = slice input i j) : NodeOK input (.word j idx w (some 0)) ∧ (Node.word j idx w (some 0)).endAt = j := by
  have hlen : i + w.reading.length = j + 1 := hr ▸ slice_length input i j hij hj
  refine ⟨⟨hj, List.ne_nil_of_length_pos (by omega), by omega, ?_⟩, rfl⟩
  rw [Nat.sub_eq_of_eq_add hlen.symm]
  exact hr.symm

theorem lookup_reading {trie : List Str} {m : List (Str × List Word)}
    (hm : ∀ p ∈ m, p.1 ≠ [] ∧ ∀ w ∈ p.2, w.reading = p.1) {key : Str} {w : Word}
    (hw : w ∈ lookup trie m key) : w.reading = key ∧ key ≠ [] := by
  obtain ⟨_, ws, hmem, hws⟩ := lookup_sound _ _ key w hw
  exact ⟨(hm _ hmem).2 w hws, (hm _ hmem).1⟩

theorem len_pos_of_ok (input : Str) (n : Node) (h : NodeOK input n) : 1 ≤ n.len ∧ n.len ≤ n.endAt + 1 := by
  cases n with
  | word e i w fw =>
    obtain ⟨_, hne, hlen, _⟩ := h
    exact ⟨List.length_pos_iff.2 hne, hlen⟩
  | virt e i s fw =>
    obtain ⟨hne, he, hlt, _⟩ := h
    exact ⟨List.length_pos_iff.2 hne, he ▸ Nat.le_of_lt hlt⟩
  | bos => cases h
  | eos => cases h

theorem endAt_lt_of_ok {input : Str} {a : Node} (h : NodeOK input a) : a.endAt < input.length := by
  cases a with
  | word _ _ _ _ => exact h.1
  | virt e i s f => exact h.2.1 ▸ Nat.lt_succ_self e
  | bos => cases h
  | eos => cases h

theorem reindex_ok (input : Str) (n : Node) (idx : Nat) (h : NodeOK input n) :
    NodeOK input (reindex n idx) ∧ (reindex n idx).endAt = n.endAt := by
  cases n <;> simp_all [reindex, NodeOK, Node.endAt]

theorem fromInput_ok (t : Tables) (input : Str) (d : Dict) (ctx : Ctx) (h : Dict.WF d) (g : Graph)
    (hg : fromInput t input d ctx = some g) : GraphOK input g := by
  refine fromInput_all (Q := fun j n => NodeOK input n ∧ n.endAt = j) t input d ctx g
    (fun i j idx w hij hj hw => wordNode_ok input i j idx w hij hj (lookup_reading h.1 hw).1)
    (fun i j idx w hij hj hw => wordNode_ok input i j idx w hij hj (lookup_reading h.2 hw).1)
    (fun _ n idx hn => reindex_ok input n idx hn.1) ?_ hg
  -- `hvirt`: `input[i+1..]` is a proper, non-empty tail
  intro i idx hi
  refine ⟨⟨?_, Nat.sub_add_cancel (by omega), ?_, ?_⟩, rfl⟩
  · intro hnil
    exact absurd (List.drop_eq_nil_iff.1 hnil) (Nat.not_le.2 hi)
  · rw [List.length_drop]
    exact Nat.sub_lt (by omega) (Nat.succ_pos i)
  · rw [List.length_drop, Nat.sub_sub_self (Nat.le_of_lt hi)]

def InG (g : Graph) (a : Node) : Prop := ∃ j, a ∈ g.getD j []

theorem inG_ok (input : Str) (g : Graph) (hg : GraphOK input g) (a : Node) (h : InG g a) :
    NodeOK input a ∧ a.endAt < input.length :=
  have ⟨j, ha⟩ := h
  have hok := (hg.2 j a ha).1
  ⟨hok, endAt_lt_of_ok hok⟩

theorem previous_mem (g : Graph) (a b : Node) (h : a ∈ previous g b) : a = .bos ∨ InG g a := by
  unfold previous at h
  split at h
  · cases h
  all_goals
    split at h
    · exact Or.inl (List.mem_singleton.1 h)
    · exact Or.inr ⟨_, h⟩

end Chokan.Kkc
