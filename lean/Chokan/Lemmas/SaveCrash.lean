/-
Crash safety of "write a temporary sibling, then rename it over the file" (Chokan.Model.Runtime), for whatever the file
and the sibling hold when the save starts: the run is symbolic in the start state, only the operation list is concrete.
-/
import Chokan.Model.Runtime

namespace Chokan.Runtime
open Chokan.Gen.Server

def fileOps : List SaveOp := [.createTmp, .write, .sync, .rename]

/-- Up to the rename only the sibling changes, and `createTmp` has truncated it, so the rename installs a complete version. -/
theorem crashStatesOf_fileOps (f : FileState) : ∀ x ∈ crashStatesOf f fileOps, x.file = f.file ∨ x.file = .new := by
  simp [fileOps, crashStatesOf, applyOp, applyPartial]

theorem finalOf_fileOps (f : FileState) : finalOf f fileOps = ⟨.new, .absent⟩ := by
  simp [fileOps, finalOf, applyOp]

variable {ops : List SaveOp}

theorem completeFrom_eq (hops : splitOps ops = (fileOps, fileOps)) (st : Fs) :
    completeFrom st ops = ⟨⟨.new, .absent⟩, ⟨.new, .absent⟩⟩ := by
  simp [completeFrom, hops, finalOf_fileOps]

theorem file_of_crash (hops : splitOps ops = (fileOps, fileOps)) {st x : Fs} (h : x ∈ crashStatesFrom st ops) :
    (x.freq.file = st.freq.file ∨ x.freq.file = .new) ∧ (x.dic.file = st.dic.file ∨ x.dic.file = .new) := by
  simp only [crashStatesFrom, hops, finalOf_fileOps, List.mem_append, List.mem_map] at h
  rcases h with ⟨f, hf, rfl⟩ | ⟨d, hd, rfl⟩
  · exact ⟨crashStatesOf_fileOps _ f hf, .inl rfl⟩
  · exact ⟨.inr rfl, crashStatesOf_fileOps _ d hd⟩

theorem crash_closed (hops : splitOps ops = (fileOps, fileOps)) {P : Content → Bool} (hnew : P .new = true) {st x : Fs}
    (hst : P st.freq.file = true ∧ P st.dic.file = true) (h : x ∈ crashStatesFrom st ops) :
    P x.freq.file = true ∧ P x.dic.file = true := by
  obtain ⟨hf, hd⟩ := file_of_crash hops h
  constructor
  · rcases hf with hf | hf <;> rw [hf]
    · exact hst.1
    · exact hnew
  · rcases hd with hd | hd <;> rw [hd]
    · exact hst.2
    · exact hnew

/-- The list is the body of `startStates` and `startStatesFresh` of C09, which unfold to it. -/
theorem mem_startList (l : List Content) (fs : Fs) :
    (fs ∈ (let cs : List Content := [.old, .new, .torn, .empty, .absent]
      let files : List FileState := l.flatMap fun f => cs.map fun t => ⟨f, t⟩
      files.flatMap fun a => files.map fun b => (⟨a, b⟩ : Fs))) ↔ fs.freq.file ∈ l ∧ fs.dic.file ∈ l := by
  obtain ⟨⟨ff, ft⟩, ⟨df, dt⟩⟩ := fs
  have all : ∀ t : Content, t ∈ [Content.old, .new, .torn, .empty, .absent] := fun t => by cases t <;> decide
  simp only [List.mem_flatMap, List.mem_map, Fs.mk.injEq]
  constructor
  · rintro ⟨_, ⟨f, hf, _, _, rfl⟩, _, ⟨g, hg, _, _, rfl⟩, h, h'⟩
    cases h
    cases h'
    exact ⟨hf, hg⟩
  · exact fun ⟨hf, hg⟩ => ⟨_, ⟨ff, hf, ft, all ft, rfl⟩, _, ⟨df, hg, dt, all dt, rfl⟩, rfl, rfl⟩

end Chokan.Runtime
