/-
The learned-count table as a key → count map (C06): `countOf` reads the count filed under (context, written form);
`updateWord` and `expire` of Chokan.Model.Server (`update_word`, `expire_frequencies` of frequency.rs) read key by key:
`countOf` sees only the entries filed under one key (`countOf_eq`), and both operations act on those of each key separately.
-/
import Chokan.Model.Server
import Chokan.Lemmas.Kkc

namespace Chokan.Server
open Chokan.Kkc Chokan.Dic

/-- the count the search engine reads for (context, written form): `ConversionFrequency::get_frequency_of_word` -/
def countOf (f : List FreqEntry) (ctx : Ctx) (w : Str) : Nat := freqOf (toKkcFreq f) ctx w

/-- "entry `e` is filed under the key (ctx, w)" -/
def isKey (ctx : Ctx) (w : Str) (e : FreqEntry) : Bool := decide (e.ctx = ctx) && Kkc.beqStr e.word w

theorem isKey_iff (ctx : Ctx) (w : Str) (e : FreqEntry) : isKey ctx w e = true ↔ e.ctx = ctx ∧ e.word = w := by
  simp [isKey, Chokan.Kkc.beqStr_iff]

theorem countOf_nil (ctx : Ctx) (w : Str) : countOf [] ctx w = 0 := by simp [countOf, toKkcFreq, freqOf]

theorem countOf_cons (e : FreqEntry) (t : List FreqEntry) (ctx : Ctx) (w : Str) :
    countOf (e :: t) ctx w = if isKey ctx w e then e.count else countOf t ctx w := by
  simp [countOf, toKkcFreq, freqOf, isKey]

theorem countOf_eq (ctx : Ctx) (w : Str) : ∀ f : List FreqEntry,
    countOf f ctx w = (((f.filter (isKey ctx w)).head?).map (·.count)).getD 0
  | [] => rfl
  | e :: t => by
    rw [countOf_cons, countOf_eq ctx w t, List.filter_cons]
    cases isKey ctx w e <;> rfl

def hit (now : Int) (e : FreqEntry) : FreqEntry := { e with count := e.count + 1, last := now }

def bump (ctx : Ctx) (w : Str) (now : Int) (e : FreqEntry) : FreqEntry := if isKey ctx w e then hit now e else e

theorem updateWord_eq (f : List FreqEntry) (ctx : Ctx) (w : Str) (now : Int) :
    updateWord f ctx w now =
      if f.filter (isKey ctx w) = [] then f ++ [⟨ctx, w, 1, now⟩] else f.map (bump ctx w now) := by
  unfold updateWord bump isKey hit
  -- the model asks whether some entry is filed under the key, the equation whether none is
  rw [← ite_not]
  simp [List.filter_eq_nil_iff]

theorem isKey_bump (ctx : Ctx) (w : Str) (now : Int) (c' : Ctx) (w' : Str) :
    isKey c' w' ∘ bump ctx w now = isKey c' w' := by
  funext e
  show isKey c' w' (bump ctx w now e) = _
  unfold bump
  split <;> rfl

/-- `update_word`: `entry(key).or_insert(Frequency { count: 0, last_occurrance: 0 })`, then `count += 1` and
`last_occurrance = now` — hence the zero entry when the key is new. -/
theorem filter_updateWord_self (f : List FreqEntry) (ctx : Ctx) (w : Str) (now : Int) :
    (updateWord f ctx w now).filter (isKey ctx w) =
      (if f.filter (isKey ctx w) = [] then [⟨ctx, w, 0, 0⟩] else f.filter (isKey ctx w)).map (hit now) := by
  rw [updateWord_eq]
  split
  · next h => simp [List.filter_append, h, (isKey_iff ctx w _).2, hit]
  · rw [List.filter_map, isKey_bump]
    exact List.map_congr_left fun e he => by simp [bump, (List.mem_filter.1 he).2]

theorem filter_updateWord_other (f : List FreqEntry) (ctx : Ctx) (w : Str) (now : Int) {c' : Ctx} {w' : Str}
    (h : ¬ (c' = ctx ∧ w' = w)) : (updateWord f ctx w now).filter (isKey c' w') = f.filter (isKey c' w') := by
  rw [updateWord_eq]
  split
  · have : isKey c' w' ⟨ctx, w, 1, now⟩ = false :=
      Bool.eq_false_iff.2 fun hk => h (((isKey_iff ..).1 hk).imp Eq.symm Eq.symm)
    simp [List.filter_append, this]
  · rw [List.filter_map, isKey_bump]
    refine (List.map_congr_left fun e he => ?_).trans (List.map_id _)
    obtain ⟨rfl, rfl⟩ := (isKey_iff ..).1 (List.mem_filter.1 he).2
    simp [bump, isKey_iff, h]

/-- not due for expiry at `now` (frequency.rs drops entries with `now - last > expiration`) -/
def fresh (now : Int) (ex : Nat) (e : FreqEntry) : Bool := !decide (now - e.last > (ex : Int))

theorem countOf_expire (f : List FreqEntry) (now : Int) (ex : Nat) (ctx : Ctx) (w : Str) :
    countOf (expire f now ex) ctx w = ((((f.filter (isKey ctx w)).filter (fresh now ex)).head?).map (·.count)).getD 0 := by
  rw [countOf_eq, expire, List.filter_filter, List.filter_filter]
  congr 4
  funext e
  rw [Bool.and_comm]
  rfl

theorem countOf_expire_fresh (now : Int) (ex : Nat) (ctx : Ctx) (w : Str) (f : List FreqEntry)
    (h : ∀ e ∈ f, isKey ctx w e = true → fresh now ex e = true) : countOf (expire f now ex) ctx w = countOf f ctx w := by
  have hall : ∀ e ∈ f.filter (isKey ctx w), fresh now ex e = true := List.forall_mem_filter.2 h
  rw [countOf_expire, countOf_eq, List.filter_eq_self.2 hall]

theorem countOf_expire_stale (now : Int) (ex : Nat) (ctx : Ctx) (w : Str) (f : List FreqEntry)
    (h : ∀ e ∈ f, isKey ctx w e = true → fresh now ex e = false) : countOf (expire f now ex) ctx w = 0 := by
  have hnone : ∀ e ∈ f.filter (isKey ctx w), ¬ fresh now ex e = true :=
    List.forall_mem_filter.2 fun e he hk => by rw [h e he hk]; exact Bool.false_ne_true
  rw [countOf_expire, List.filter_eq_nil_iff.2 hnone]
  rfl

theorem fresh_of_last {now : Int} {ex : Nat} {e : FreqEntry} (h : e.last = now) : fresh now ex e = true := by
  simp [fresh, h, Int.not_lt.2 (Int.natCast_nonneg ex)]

/-- `UserPref::update_frequency`: `update_word`, then `expire_frequencies` at the same `now`. -/
theorem countOf_confirmation (f : List FreqEntry) (ctx : Ctx) (w : Str) (now : Int) (ex : Nat) (c' : Ctx) (w' : Str) :
    countOf (expire (updateWord f ctx w now) now ex) c' w' =
      if c' = ctx ∧ w' = w then countOf f ctx w + 1 else countOf (expire f now ex) c' w' := by
  split
  · next h =>
    obtain ⟨rfl, rfl⟩ := h
    -- every entry under the confirmed key was used at `now`, so none of them is due
    rw [countOf_expire, filter_updateWord_self, List.filter_eq_self.2, countOf_eq]
    · cases f.filter (isKey c' w') <;> simp [hit]
    · intro e he
      obtain ⟨_, _, rfl⟩ := List.mem_map.1 he
      exact fresh_of_last rfl
  · next h =>
    rw [countOf_expire, countOf_expire, filter_updateWord_other f ctx w now h]

end Chokan.Server
