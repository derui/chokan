/-
Lemmas for C17 (kana_alpha::convert), generic in the table.  What one step emits and consumes is said
once (`expandRoma_some`, `toRomaSequence_cases`); the recursion is packaged once (`convLoop_nil`,
`convLoop_cons`, `convLoop_induct`) and nothing after them mentions fuel.  The facts about the table
come in as hypotheses on its rows: the sort only permutes them (`mem_sortTable`), so the property file
checks them on the table as extracted.  Also here: the character classes C17 speaks of (`asciiLower`,
`okChar`, `asciiPart`, …) and NFC on strings without combining marks (`nfcKana_id`).
-/
import Chokan.Model.KanaAlpha

namespace Chokan.KanaAlpha

theorem beqStr_iff : ∀ (a b : Str), beqStr a b = true ↔ a = b
  | [], [] => by simp [beqStr]
  | [], _ :: _ => by simp [beqStr]
  | _ :: _, [] => by simp [beqStr]
  | x :: xs, y :: ys => by simp [beqStr, beqStr_iff xs ys]

theorem startsWith_iff : ∀ {s p : Str}, startsWith s p = true ↔ p <+: s
  | _, [] => by simp [startsWith]
  | [], _ :: _ => by simp [startsWith]
  | a :: as, b :: bs => by
    simp only [startsWith, Bool.and_eq_true, Nat.beq_eq, startsWith_iff (s := as), List.cons_prefix_cons,
      eq_comm (a := a)]

theorem isSokuon_iff {c : Nat} : isSokuon c = true ↔ c = 0x3063 ∨ c = 0x30C3 := by
  simp [isSokuon]

theorem mem_insertRow {r x : Row} : ∀ {l : List Row}, x ∈ insertRow r l ↔ x = r ∨ x ∈ l
  | [] => by simp [insertRow]
  | y :: t => by
    unfold insertRow
    split
    · simp
    · simp only [List.mem_cons, mem_insertRow (l := t)]
      exact or_left_comm

theorem mem_sortTable {x : Row} : ∀ {t : List Row}, x ∈ sortTable t ↔ x ∈ t
  | [] => Iff.rfl
  | r :: t => by simp only [sortTable, mem_insertRow, mem_sortTable (t := t), List.mem_cons]

theorem forall_mem_sortTable {p : Row → Prop} {t : List Row} (h : ∀ r ∈ t, p r) : ∀ r ∈ sortTable t, p r :=
  fun r hr => h r (mem_sortTable.1 hr)

def asciiLower (c : Nat) : Bool := (Nat.ble 97 c && Nat.ble c 122) || (Nat.ble 48 c && Nat.ble c 57)

def asciiAlnum (c : Nat) : Bool :=
  (Nat.ble 97 c && Nat.ble c 122) || (Nat.ble 65 c && Nat.ble c 90) || (Nat.ble 48 c && Nat.ble c 57)

/-- hiragana あ…ん -/
def plainHira (c : Nat) : Bool := Nat.ble 0x3042 c && Nat.ble c 0x3093

def okChar (c : Nat) : Bool := asciiAlnum c || plainHira c

/-- the combining (han)dakuten -/
def isMark (c : Nat) : Bool := Nat.beq c 0x3099 || Nat.beq c 0x309A

theorem lower_alnum {c : Nat} (h : asciiAlnum c = true) : asciiLower (lower c) = true := by
  simp only [asciiAlnum, Bool.or_eq_true, Bool.and_eq_true, Nat.ble_eq] at h
  simp only [asciiLower, lower, Bool.or_eq_true, Bool.and_eq_true, Nat.ble_eq]
  split <;> omega

theorem plainHira_iff {c : Nat} : plainHira c = true ↔ 0x3042 ≤ c ∧ c ≤ 0x3093 := by
  simp only [plainHira, Bool.and_eq_true, Nat.ble_eq]

theorem okChar_cases {c : Nat} (h : okChar c = true) : plainHira c = true ∨ c < 0x80 := by
  rcases Bool.or_eq_true _ _ ▸ h with h | h
  · simp only [asciiAlnum, Bool.or_eq_true, Bool.and_eq_true, Nat.ble_eq] at h
    exact Or.inr (by omega)
  · exact Or.inl h

theorem isMark_eq_false {c : Nat} : isMark c = false ↔ c ≠ 0x3099 ∧ c ≠ 0x309A := by
  rw [← Bool.not_eq_true]; simp [isMark]

theorem okChar_isMark {c : Nat} (h : okChar c = true) : isMark c = false := by
  have h := okChar_cases h
  rw [plainHira_iff] at h
  rw [isMark_eq_false]
  omega

theorem not_alnum_of_ge {c : Nat} (h : 0x80 ≤ c) : asciiAlnum c = false := by
  rw [← Bool.not_eq_true]
  simp only [asciiAlnum, Bool.or_eq_true, Bool.and_eq_true, Nat.ble_eq]
  omega

theorem sokuon_not_alnum {c : Nat} (h : isSokuon c = true) : asciiAlnum c = false :=
  not_alnum_of_ge (by have := isSokuon_iff.1 h; omega)

def hiraNonEmpty (sorted : List Row) : Prop := ∀ r ∈ sorted, r.1 ≠ []

def alphasAscii (sorted : List Row) : Prop := ∀ r ∈ sorted, ∀ c ∈ r.2.2, asciiLower c = true

def kanaColumnsOk (sorted : List Row) : Prop :=
  ∀ r ∈ sorted, r.2.1.length = r.1.length ∧ ∀ c, c ∈ r.1 ∨ c ∈ r.2.1 → asciiAlnum c = false

def singleKanaCovered (sorted : List Row) : Prop := ∀ c, plainHira c = true → ∃ r ∈ sorted, r.1 = [c]

def singleKana (t : List Row) : List Nat := t.filterMap fun r => match r.1 with | [c] => some c | _ => none

/-- Coverage is checked against the list of single-character rows, made in one pass over the table:
comparing every hiragana with every row costs the kernel several times more. -/
theorem singleKanaCovered_of_all {t : List Row}
    (h : (List.range' 0x3042 82).all (fun c => (singleKana t).any (Nat.beq c)) = true) :
    singleKanaCovered (sortTable t) := by
  intro c hc
  rw [plainHira_iff] at hc
  obtain ⟨x, hx, e⟩ := List.any_eq_true.1 (List.all_eq_true.1 h c (List.mem_range'_1.2 (by omega)))
  obtain ⟨r, hr, hm⟩ := List.mem_filterMap.1 hx
  refine ⟨r, mem_sortTable.2 hr, ?_⟩
  split at hm
  · next hr1 => rw [hr1, Option.some.inj hm, Nat.eq_of_beq_eq_true e]
  · cases hm

theorem pickBest_eq_none : ∀ {cs : List (Str × Nat)} {best : Option (Str × Nat)},
    pickBest best cs = none → best = none ∧ cs = []
  | [], _, h => ⟨h, rfl⟩
  | _ :: t, none, h => nomatch (pickBest_eq_none (cs := t) h).1
  | _ :: t, some _, h => by
    simp only [pickBest] at h
    split at h <;> exact nomatch (pickBest_eq_none h).1

theorem pickBest_mem {c : Str × Nat} : ∀ {cs : List (Str × Nat)} {best : Option (Str × Nat)},
    pickBest best cs = some c → c ∈ best.toList ++ cs
  | [], none, h => nomatch h
  | [], some _, h => Option.some.inj h ▸ List.mem_cons_self
  | _ :: t, none, h => pickBest_mem (cs := t) h
  | x :: t, some b, h => by
    simp only [pickBest] at h
    split at h
    · exact List.mem_cons_of_mem b (pickBest_mem h)
    · exact List.mem_cons.2 ((List.mem_cons.1 (pickBest_mem h)).imp_right (List.mem_cons_of_mem x))

theorem replicateStr_mem {n : Nat} {s : Str} {c : Nat} (h : c ∈ replicateStr n s) : c ∈ s := by
  induction n with
  | zero => cases h
  | succ n ih => exact (List.mem_append.1 h).elim id ih

theorem stripSokuons_eq : ∀ s : Str, stripSokuons s = ((s.takeWhile isSokuon).length, s.dropWhile isSokuon)
  | [] => rfl
  | c :: t => by
    rw [stripSokuons, stripSokuons_eq t, List.takeWhile_cons, List.dropWhile_cons]
    cases isSokuon c <;> rfl

/-- A row that matches emits letters of its spelling only; it consumes one character (the sokuon's own
row) or a run of sokuon and the row's kana. -/
theorem expandRoma_some {row : Row} {s v : Str} {len : Nat} (h : expandRoma row s = some (v, len)) :
    (∀ x ∈ v, x ∈ row.2.2) ∧ ∃ pre r, s = pre ++ r ∧ (∀ x ∈ pre, isSokuon x = true) ∧
      (row.1 <+: r ∨ row.2.1 <+: r) ∧ (len = 1 ∨ len = pre.length + row.1.length) := by
  unfold expandRoma at h
  split at h
  · next hc =>
    cases h
    simp only [Bool.and_eq_true, Bool.or_eq_true, startsWith_iff] at hc
    exact ⟨fun _ hx => hx, [], s, rfl, nofun, hc.2, Or.inl rfl⟩
  · simp only [expandUnit, stripSokuons_eq, Option.ite_none_right_eq_some, Option.ite_none_left_eq_some,
      Option.some.injEq, Prod.mk.injEq, Bool.or_eq_true, startsWith_iff] at h
    obtain ⟨hc, -, rfl, rfl⟩ := h
    refine ⟨fun x hx => ?_, _, _, List.takeWhile_append_dropWhile.symm, List.all_eq_true.1 List.all_takeWhile, hc,
      Or.inr (Nat.add_comm _ _)⟩
    rcases List.mem_append.1 hx with hx | hx
    · exact List.mem_of_mem_take (replicateStr_mem hx)
    · exact hx

theorem expandRoma_single {row : Row} {c : Nat} (t : Str) (hr : row.1 = [c]) : expandRoma row (c :: t) ≠ none := by
  have hsw : startsWith (c :: t) row.1 = true := by simp [hr, startsWith]
  unfold expandRoma
  cases hrs : rowIsSokuon row with
  | true => simp [hsw]
  | false =>
    have hstrip : stripSokuons (c :: t) = (0, c :: t) := by
      simp only [rowIsSokuon, hr] at hrs
      simp [stripSokuons, hrs]
    simp [expandUnit, hstrip, hsw]

theorem toRomaSequence_cases (sorted : List Row) (s : Str) :
    (∃ row ∈ sorted, ∃ v len, expandRoma row s = some (v, len) ∧ toRomaSequence sorted s = (v, s.drop len)) ∨
    ((∀ row ∈ sorted, expandRoma row s = none) ∧ toRomaSequence sorted s = ((s.take 1).map lower, s.drop 1)) := by
  unfold toRomaSequence
  split
  · next v len hp =>
    obtain ⟨row, hrow, he⟩ := List.mem_filterMap.1 (pickBest_mem hp)
    exact Or.inl ⟨row, hrow, v, len, he, rfl⟩
  · next hp => exact Or.inr ⟨List.filterMap_eq_nil_iff.1 (pickBest_eq_none hp).2, rfl⟩

variable {sorted : List Row}

theorem toRomaSequence_suffix (sorted : List Row) (s : Str) : (toRomaSequence sorted s).2 <:+ s := by
  rcases toRomaSequence_cases sorted s with ⟨_, _, _, _, _, h⟩ | ⟨_, h⟩ <;> rw [h] <;> exact List.drop_suffix _ _

theorem toRomaSequence_progress (hne : hiraNonEmpty sorted) (a : Nat) (t : Str) :
    (toRomaSequence sorted (a :: t)).2.length ≤ t.length := by
  rcases toRomaSequence_cases sorted (a :: t) with ⟨row, hrow, _, len, he, h⟩ | ⟨_, h⟩
  · obtain ⟨_, pre, _, _, _, _, hlen⟩ := expandRoma_some he
    have := List.length_pos_iff.2 (hne row hrow)
    rw [h, List.length_drop, List.length_cons]
    omega
  · rw [h]; simp

theorem toRomaSequence_chars (ha : alphasAscii sorted) (a : Nat) (t : Str) :
    ∀ c ∈ (toRomaSequence sorted (a :: t)).1, asciiLower c = true ∨ c = lower a := by
  rcases toRomaSequence_cases sorted (a :: t) with ⟨row, hrow, _, _, he, h⟩ | ⟨_, h⟩ <;> rw [h]
  · exact fun c hc => Or.inl (ha row hrow c ((expandRoma_some he).1 c hc))
  · simp

theorem toRomaSequence_ascii (ha : alphasAscii sorted)
    (hcov : singleKanaCovered sorted) {a : Nat} (t : Str) (hc : okChar a = true) :
    ∀ c ∈ (toRomaSequence sorted (a :: t)).1, asciiLower c = true := by
  rcases toRomaSequence_cases sorted (a :: t) with ⟨row, hrow, _, _, he, h⟩ | ⟨hnone, h⟩ <;> rw [h]
  · exact fun c hc => ha row hrow c ((expandRoma_some he).1 c hc)
  · rcases Bool.or_eq_true _ _ ▸ hc with hc | hc
    · simpa using lower_alnum hc
    · obtain ⟨row, hrow, hr⟩ := hcov a hc
      exact absurd (hnone row hrow) (expandRoma_single t hr)

/-- The ASCII letters and digits of a string, lower-cased, in order. -/
def asciiPart (s : Str) : Str := (s.filter asciiAlnum).map lower

theorem asciiPart_append (s t : Str) : asciiPart (s ++ t) = asciiPart s ++ asciiPart t := by
  simp [asciiPart]

theorem toRomaSequence_keeps (hne : hiraNonEmpty sorted)
    (hcol : kanaColumnsOk sorted) (s : Str) :
    ∃ len, (toRomaSequence sorted s).2 = s.drop len ∧ (asciiPart (s.take len)).Sublist (toRomaSequence sorted s).1 := by
  rcases toRomaSequence_cases sorted s with ⟨row, hrow, _, len, he, h⟩ | ⟨_, h⟩ <;> rw [h]
  · refine ⟨len, rfl, ?_⟩
    obtain ⟨_, pre, r, rfl, hpre, hm, hlen⟩ := expandRoma_some he
    obtain ⟨hl, hcol⟩ := hcol row hrow
    have h1 := List.length_pos_iff.2 (hne row hrow)
    obtain ⟨col, ⟨r', rfl⟩, hcl, hca⟩ :
        ∃ col, col <+: r ∧ col.length = row.1.length ∧ ∀ x ∈ col, asciiAlnum x = false := by
      rcases hm with hm | hm
      · exact ⟨row.1, hm, rfl, fun x hx => hcol x (Or.inl hx)⟩
      · exact ⟨row.2.1, hm, hl, fun x hx => hcol x (Or.inr hx)⟩
    have hnone : ((pre ++ (col ++ r')).take len).filter asciiAlnum = [] := by
      refine List.filter_eq_nil_iff.2 fun x hx => Bool.eq_false_iff.1 ?_
      -- the consumed stretch lies within the sokuon run and the column that matched
      rw [← List.append_assoc, List.take_append_of_le_length (by rw [List.length_append]; omega)] at hx
      rcases List.mem_append.1 (List.mem_of_mem_take hx) with hx | hx
      · exact sokuon_not_alnum (hpre x hx)
      · exact hca x hx
    rw [asciiPart, hnone]
    exact List.nil_sublist _
  · exact ⟨1, rfl, List.filter_sublist.map lower⟩

def convLoop (sorted : List Row) (s : Str) : Option Str := convFuel sorted (s.length + 1) s

theorem convert_eq_convLoop (table : List Row) (s : Str) : convert table s = convLoop (sortTable table) (nfcKana s) := rfl

theorem convLoop_nil : convLoop sorted [] = some [] := by
  unfold convLoop convFuel; rfl

private theorem convFuel_fuel (hne : hiraNonEmpty sorted) :
    ∀ (f1 f2 : Nat) (s : Str), s.length < f1 → s.length < f2 → convFuel sorted f1 s = convFuel sorted f2 s
  | _, _, [], _, _ => by unfold convFuel; rfl
  | 0, _, _ :: _, h, _ => absurd h (Nat.not_lt_zero _)
  | _, 0, _ :: _, _, h => absurd h (Nat.not_lt_zero _)
  | f1 + 1, f2 + 1, a :: t, h1, h2 => by
    have hp := toRomaSequence_progress hne a t
    have hlt1 := Nat.lt_of_le_of_lt hp (Nat.lt_of_succ_lt_succ h1)
    have hlt2 := Nat.lt_of_le_of_lt hp (Nat.lt_of_succ_lt_succ h2)
    rw [convFuel, convFuel]
    exact congrArg (Option.map _) (convFuel_fuel hne f1 f2 _ hlt1 hlt2)

theorem convLoop_cons (hne : hiraNonEmpty sorted) (a : Nat) (t : Str) :
    convLoop sorted (a :: t) =
      (convLoop sorted (toRomaSequence sorted (a :: t)).2).map ((toRomaSequence sorted (a :: t)).1 ++ ·) := by
  unfold convLoop
  have hp := toRomaSequence_progress hne a t
  rw [List.length_cons, convFuel]
  exact congrArg (Option.map _) (convFuel_fuel hne _ _ _ (Nat.lt_succ_of_le hp) (Nat.lt_succ_self _))

theorem convLoop_induct (hne : hiraNonEmpty sorted) {motive : Str → Prop} (nil : motive [])
    (cons : ∀ a t, motive (toRomaSequence sorted (a :: t)).2 → motive (a :: t)) : ∀ s, motive s
  | [] => nil
  | a :: t => cons a t (convLoop_induct hne nil cons _)
termination_by s => s.length
decreasing_by exact Nat.lt_succ_of_le (toRomaSequence_progress hne a t)

theorem convLoop_cons_eq_some (hne : hiraNonEmpty sorted) {a : Nat} {t out : Str}
    (h : convLoop sorted (a :: t) = some out) :
    ∃ o, convLoop sorted (toRomaSequence sorted (a :: t)).2 = some o ∧
      out = (toRomaSequence sorted (a :: t)).1 ++ o := by
  rw [convLoop_cons hne, Option.map_eq_some_iff] at h
  exact h.imp fun o h => ⟨h.1, h.2.symm⟩

theorem convLoop_total (hne : hiraNonEmpty sorted) (s : Str) : ∃ out, convLoop sorted s = some out := by
  induction s using convLoop_induct hne with
  | nil => exact ⟨[], convLoop_nil⟩
  | cons a t ih =>
    obtain ⟨o, ho⟩ := ih
    exact ⟨_, by rw [convLoop_cons hne, ho]; rfl⟩

theorem convLoop_pieces (hne : hiraNonEmpty sorted) (s : Str) : ∀ out, convLoop sorted s = some out →
    ∀ c ∈ out, ∃ a t, a :: t <:+ s ∧ c ∈ (toRomaSequence sorted (a :: t)).1 := by
  induction s using convLoop_induct hne with
  | nil => intro out h; cases convLoop_nil.symm.trans h; nofun
  | cons a t ih =>
    intro out h c hc
    obtain ⟨o, ho, rfl⟩ := convLoop_cons_eq_some hne h
    rcases List.mem_append.1 hc with hc | hc
    · exact ⟨a, t, List.suffix_refl _, hc⟩
    · obtain ⟨a', t', hs, hc⟩ := ih o ho c hc
      exact ⟨a', t', hs.trans (toRomaSequence_suffix sorted _), hc⟩

theorem convLoop_chars (hne : hiraNonEmpty sorted) (ha : alphasAscii sorted)
    {s out : Str} (h : convLoop sorted s = some out) : ∀ c ∈ out, asciiLower c = true ∨ ∃ x ∈ s, c = lower x := by
  intro c hc
  obtain ⟨a, t, hs, hc⟩ := convLoop_pieces hne s out h c hc
  exact (toRomaSequence_chars ha a t c hc).imp id fun e => ⟨a, hs.subset List.mem_cons_self, e⟩

theorem convLoop_ascii (hne : hiraNonEmpty sorted) (ha : alphasAscii sorted)
    (hcov : singleKanaCovered sorted) {s out : Str} (hs : ∀ c ∈ s, okChar c = true)
    (h : convLoop sorted s = some out) : ∀ c ∈ out, asciiLower c = true := by
  intro c hc
  obtain ⟨a, t, hsuf, hc⟩ := convLoop_pieces hne s out h c hc
  exact toRomaSequence_ascii ha hcov t (hs a (hsuf.subset List.mem_cons_self)) c hc

theorem convLoop_keeps_ascii (hne : hiraNonEmpty sorted)
    (hcol : kanaColumnsOk sorted) (s : Str) :
    ∀ out, convLoop sorted s = some out → (asciiPart s).Sublist out := by
  induction s using convLoop_induct hne with
  | nil => intro out h; cases convLoop_nil.symm.trans h; exact List.Sublist.refl _
  | cons a t ih =>
    intro out h
    obtain ⟨o, ho, rfl⟩ := convLoop_cons_eq_some hne h
    obtain ⟨len, hr, hk⟩ := toRomaSequence_keeps hne hcol (a :: t)
    rw [← congrArg asciiPart (List.take_append_drop len (a :: t)), asciiPart_append, ← hr]
    exact hk.append (ih o ho)

theorem composeKana_of_not_mark (a : Nat) {m : Nat} (h : isMark m = false) : composeKana a m = none := by
  rw [isMark_eq_false] at h
  simp [composeKana, h.1, h.2]

theorem nfcKana_append {rest : Str} (h : ∀ b ∈ rest.head?, isMark b = false) :
    ∀ l : Str, nfcKana (l ++ rest) = nfcKana l ++ nfcKana rest
  | [] => rfl
  | [a] => by
    cases rest with
    | nil => rfl
    | cons b t => rw [List.singleton_append, nfcKana, composeKana_of_not_mark a (h b rfl)]; rfl
  | a :: b :: t => by
    rw [List.cons_append, List.cons_append, nfcKana, nfcKana]
    split
    · rw [nfcKana_append h t]; rfl
    · rw [← List.cons_append, nfcKana_append h (b :: t)]; rfl

theorem nfcKana_id : ∀ s : Str, (∀ c ∈ s, isMark c = false) → nfcKana s = s
  | [], _ => rfl
  | a :: t, h => by
    have ht := nfcKana_id t fun c hc => h c (List.mem_cons_of_mem _ hc)
    rw [← List.singleton_append, nfcKana_append (fun b hb => h b (List.mem_cons_of_mem _ (List.mem_of_mem_head? hb))), ht]
    rfl

theorem convert_of_okChar (table : List Row) {s : Str} (hs : ∀ c ∈ s, okChar c = true) :
    convert table s = convLoop (sortTable table) s := by
  rw [convert_eq_convLoop, nfcKana_id s fun c hc => okChar_isMark (hs c hc)]

end Chokan.KanaAlpha
