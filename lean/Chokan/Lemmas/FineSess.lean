/-
The session store of the interleaving model with data (Model/Fine): which event writes which component of the locals
and of the state, the ledger invariant of every schedule and the data-level form of C15 — a confirmation that pops
after the conversion has answered gets exactly the answered candidates; the entry queue; the running dictionary.
-/
import Chokan.Lemmas.Fine
import Chokan.Lemmas.ConcSess

namespace Chokan.Fine
open Chokan.Conc Chokan.Gen.Server Chokan.Server Chokan.Kkc Chokan.Dic

def isConfirmOf (l : Local) (k : Nat) : Prop := ∃ id now, l.req = .confirm k id now

def Adds (e : Ev) (l : Local) : Prop := e = .act .addSession ∧ ∃ ctx input, l.req = .conv ctx input

def Pops (e : Ev) (l : Local) : Prop := e = .act .popSession ∧ ∃ sid id now, l.req = .confirm sid id now

structure Frame (e : Ev) (l l' : Local) (s s' : State) : Prop where
  req : l'.req = l.req
  store : ¬ Adds e l → ¬ Pops e l →
    l'.stored = l.stored ∧ l'.popped = l.popped ∧ s'.nextSid = s.nextSid ∧ s'.sessions = s.sessions
  pending : e ≠ .send .entry → e ≠ .recv .entry → s'.pending = s.pending
  dict : e ≠ .act .mapInsert → s'.dict = s.dict

theorem Frame.untouched {e : Ev} {l l' : Local} {s s' : State} (h1 : l'.req = l.req)
    (h2 : l'.stored = l.stored ∧ l'.popped = l.popped ∧ s'.nextSid = s.nextSid ∧ s'.sessions = s.sessions)
    (h3 : s'.pending = s.pending) (h4 : s'.dict = s.dict) : Frame e l l' s s' :=
  ⟨h1, fun _ _ => h2, fun _ _ => h3, fun _ => h4⟩

theorem effect_frame (c : Cfg) (e : Ev) (l : Local) (s : State) : Frame e l (effect c e l s).1 s (effect c e l s).2 := by
  cases h : l.req with
  | conv ctx input =>
    rw [effect_conv h]
    split
    case h_2 => -- addSession
      exact { req := rfl, pending := fun _ _ => rfl, dict := fun _ => rfl,
              store := fun hn _ => absurd ⟨rfl, ctx, input, h⟩ hn }
    all_goals exact .untouched rfl ⟨rfl, rfl, rfl, rfl⟩ rfl rfl
  | confirm sid id now =>
    rw [effect_confirm h]
    split
    case h_1 => -- popSession
      exact { req := rfl, pending := fun _ _ => rfl, dict := fun _ => rfl,
              store := fun _ hn => absurd ⟨rfl, sid, id, now, h⟩ hn }
    case h_4 => -- send entry
      exact { req := rfl, store := fun _ _ => ⟨rfl, rfl, rfl, rfl⟩, dict := fun _ => rfl,
              pending := fun h _ => absurd rfl h }
    all_goals exact .untouched rfl ⟨rfl, rfl, rfl, rfl⟩ rfl rfl
  | register kind reading word =>
    rw [effect_register h]
    split
    case h_1 => -- send entry
      exact { req := rfl, store := fun _ _ => ⟨rfl, rfl, rfl, rfl⟩, dict := fun _ => rfl,
              pending := fun h _ => absurd rfl h }
    all_goals exact .untouched rfl ⟨rfl, rfl, rfl, rfl⟩ rfl rfl
  | other =>
    rw [effect_bg h]
    split
    case h_1 => -- recv entry
      exact { req := rfl, store := fun _ _ => ⟨rfl, rfl, rfl, rfl⟩, dict := fun _ => rfl,
              pending := fun _ h => absurd rfl h }
    case h_3 => -- mapInsert
      exact { req := rfl, store := fun _ _ => ⟨rfl, rfl, rfl, rfl⟩, pending := fun _ _ => rfl,
              dict := fun h => absurd rfl h }
    case h_4 => -- saveFiles: only `saved` is written
      rw [save_eq]; exact .untouched rfl ⟨rfl, rfl, rfl, rfl⟩ rfl rfl
    all_goals exact .untouched rfl ⟨rfl, rfl, rfl, rfl⟩ rfl rfl

theorem effect_req (c : Cfg) (e : Ev) (l : Local) (s : State) : (effect c e l s).1.req = l.req :=
  (effect_frame c e l s).req

theorem headEv_thread {s : St} {i : Nat} {e : Ev} (h : headEv s i = some e) : ∃ t, s.threads[i]? = some t :=
  let ⟨t, _, ht, _⟩ := headEv_eq_some.1 h
  ⟨t, ht⟩

def fgone (ls : List Local) (_ : Nat) (a : Session) : Prop :=
  ∃ (u : Nat) (lu : Local), ls[u]? = some lu ∧ isConfirmOf lu a.sid ∧ lu.popped = true

/-- `conv i`: thread `i` runs a path of a converting handler with a conversion request. -/
structure FInv (conv : Nat → Prop) (d : FSt) : Prop where
  ledger : Ledger (·.sid) (tokOf (·.stored) d.locals) d.data.sessions (fgone d.locals) d.data.nextSid
  ahead : ∀ i, conv i → (∃ l, d.locals[i]? = some l ∧ ∃ ctx input, l.req = .conv ctx input) ∧
    AheadAt d.st i (tokOf (·.stored) d.locals i)

theorem fgone_set {ls : List Local} {i0 : Nat} {l l2 : Local} (hl : ls[i0]? = some l) (hr : l2.req = l.req)
    (hp : l.popped = true → l2.popped = true) {i : Nat} {a : Session} (h : fgone ls i a) : fgone (ls.set i0 l2) i a := by
  obtain ⟨u, hu⟩ := h
  refine ⟨u, exists_set hl (fun ⟨⟨cid, now, hc⟩, hpu⟩ => ?_) hu⟩
  exact ⟨⟨cid, now, hr.trans hc⟩, hp hpu⟩

theorem FInv_set {conv : Nat → Prop} {d : FSt} (h : FInv conv d) (ik : Nat × Nat) {l l2 : Local} {s2 : State}
    (hl : d.locals[ik.1]? = some l) (hr : l2.req = l.req)
    (hled : Ledger (·.sid) (tokOf (·.stored) (d.locals.set ik.1 l2)) s2.sessions (fgone (d.locals.set ik.1 l2)) s2.nextSid)
    (hmono : l2.stored = none → l.stored = none)
    (hadd : headEv d.st ik.1 = some (.act .addSession) → (∃ ctx input, l.req = .conv ctx input) → l2.stored ≠ none) :
    FInv conv ⟨step d.st ik, d.locals.set ik.1 l2, s2⟩ := by
  refine ⟨hled, fun i hc => ?_⟩
  obtain ⟨hreq, hah⟩ := h.ahead i hc
  refine ⟨exists_set hl (fun hcv => hr ▸ hcv) hreq, ahead_set ik hl hah hmono fun hi he => ?_⟩
  obtain ⟨l', hl', hc'⟩ := hreq
  rw [hi, hl] at hl'; cases hl'
  exact hadd (hi ▸ he) hc'

theorem FInv_fstep {conv : Nat → Prop} (c : Cfg) {d : FSt} (h : FInv conv d) (ik : Nat × Nat) : FInv conv (fstep c d ik) := by
  unfold fstep
  split
  · next e l hhe hl =>
    have F := effect_frame c e l d.data
    by_cases hadd : Adds e l
    · obtain ⟨rfl, ctx, input, hr⟩ := hadd
      rw [effect_conv hr] at F ⊢
      refine FInv_set h ik hl F.req ?_ nofun (fun _ _ => nofun)
      exact h.ledger.issue ik.1 ⟨d.data.nextSid, ctx, l.cands⟩ rfl (tokOf_set hl) fun i b _ => fgone_set hl F.req id
    · by_cases hpop : Pops e l
      · obtain ⟨rfl, sid, cid, now, hr⟩ := hpop
        rw [effect_confirm hr] at F ⊢
        refine FInv_set h ik hl F.req ?_ id (fun he => by rw [hhe] at he; cases he)
        refine h.ledger.pop sid (tokOf_set_same hl rfl) ?_
        rintro i a _ (hg | rfl)
        · exact fgone_set hl F.req (fun _ => rfl) hg
        · exact ⟨ik.1, _, List.getElem?_set_self (List.getElem?_eq_some_iff.1 hl).1, ⟨cid, now, hr⟩, rfl⟩
      · obtain ⟨hst, hpo, hnx, hss⟩ := F.store hadd hpop
        refine FInv_set h ik hl F.req ?_ (fun hn => hst.symm.trans hn) ?_
        · rw [hss, hnx]
          refine h.ledger.frame (tokOf_set_same hl hst) fun i a _ hg => ?_
          exact fgone_set hl F.req (fun hp => hpo.trans hp) hg
        · intro he hc
          rw [hhe] at he
          exact absurd ⟨Option.some.inj he, hc⟩ hadd
  · next hno =>
    -- no event, or a thread without locals: locals and data stay
    refine ⟨h.ledger, fun i hc => ?_⟩
    obtain ⟨hreq, hah⟩ := h.ahead i hc
    refine ⟨hreq, ahead_step ik hah id fun hi he => ?_⟩
    obtain ⟨l, hl, _⟩ := hreq
    subst hi
    exact (hno _ l he hl).elim

theorem FInv_frun {conv : Nat → Prop} (c : Cfg) (sched : List (Nat × Nat)) {d : FSt} (h : FInv conv d) :
    FInv conv (frun c d sched) :=
  List.foldlRecOn (motive := FInv conv) sched (fstep c) h fun _ h ik _ => FInv_fstep c h ik

theorem FInv_finit {unb : Chan → Bool} {capOf : Chan → Nat} {reqs : List (List Ev × Req)} {tasks : List (List (List Ev))}
    {s : State} {paths : List (List Ev)} (hpaths : ∀ p ∈ paths, Ahead p) (hs : ∀ x ∈ s.sessions, x.sid < s.nextSid) :
    FInv (fun i => ∃ r, reqs[i]? = some r ∧ r.1 ∈ paths ∧ ∃ ctx input, r.2 = .conv ctx input)
      (finit unb capOf reqs tasks s) := by
  have hst : ∀ l ∈ (finit unb capOf reqs tasks s).locals, l.stored = none := by
    simp only [finit, List.forall_mem_append, List.forall_mem_map, implies_true, and_self]
  refine ⟨Ledger.init (tokOf_none hst) hs, ?_⟩
  rintro i ⟨r, hr, hrp, hrq⟩
  exact ⟨⟨_, getElem?_map_append _ hr, hrq⟩, _, initSt_get (by rw [List.getElem?_map, hr]; rfl), rfl,
    fun _ => hpaths r.1 hrp⟩

/-- `C15_fine_confirmation_gets_answered_candidate` is this at the state a schedule reaches: a confirmation thread that
pops after the answer, first among those naming the id, gets the candidate its string names among the answered ones. -/
theorem fine_pop_finds {conv : Nat → Prop} (cfg : Cfg) {d : FSt} (h : FInv conv d) (c u k : Nat)
    (hc : conv c) (hans : answered d.st c = true) :
    ∃ (lc : Local) (sess : Session), d.locals[c]? = some lc ∧ lc.stored = some sess ∧
      ∀ (lu : Local) (id : String) (now : Int), d.locals[u]? = some lu → lu.req = .confirm sess.sid id now →
        headEv d.st u = some (.act .popSession) →
        (∀ (u' : Nat) (lu' : Local), d.locals[u']? = some lu' → isConfirmOf lu' sess.sid → lu'.popped = false) →
        ∃ lu', (fstep cfg d (u, k)).locals[u]? = some lu' ∧
          lu'.cand = (foundCand sess id).map (fun cd => (sess.ctx, cd)) ∧ lu'.popped = true ∧
          (fstep cfg d (u, k)).data.sessions.find? (·.sid == sess.sid) = none := by
  obtain ⟨sess, hs⟩ := token_of_answered (h.ahead c hc).2 hans
  obtain ⟨lc, hlc, hst⟩ := Option.bind_eq_some_iff.1 hs
  refine ⟨lc, sess, hlc, hst, fun lu id now hu hreq hhead hfirst => ?_⟩
  have hin : d.data.sessions.find? (·.sid == sess.sid) = some sess :=
    (h.ledger.kept c sess hs).resolve_right fun ⟨u', lu', hu', hcu', hpu'⟩ => by simp [hfirst u' lu' hu' hcu'] at hpu'
  have hlt : u < d.locals.length := (List.getElem?_eq_some_iff.1 hu).1
  have hf : fstep cfg d (u, k) = ⟨step d.st (u, k), d.locals.set u (effect cfg (.act .popSession) lu d.data).1,
      (effect cfg (.act .popSession) lu d.data).2⟩ := by unfold fstep; simp only [hhead, hu]
  rw [hf, effect_confirm hreq]
  exact ⟨_, List.getElem?_set_self hlt, by simp [popSession, hin], rfl, find?_filter_sid _ _⟩

/-- … and when that thread later executes `update_frequency`, the learned count of the candidate's independent word in the
conversion's context goes up by exactly one (and stale counts are dropped), whatever ran in between. -/
theorem fine_updFreq (cfg : Cfg) (l : Local) (s : State) (sid : Nat) (id : String) (now : Int) (ctx : Ctx) (cand : Cand) (w : Str)
    (hreq : l.req = .confirm sid id now) (hc : l.cand = some (ctx, cand)) (hw : independentWord cand.chain = some w) :
    (effect cfg (.act .updFreq) l s).2 = { s with freq := expire (updateWord s.freq ctx w now) now cfg.expiryMs } := by
  rw [effect_confirm hreq]
  simp only [hc, hw]

/-- what one step puts into the entry queue / takes out of it -/
def sentBy (c : Cfg) (d : FSt) (ik : Nat × Nat) : List Entry :=
  match headEv d.st ik.1, d.locals[ik.1]? with
  | some (.send .entry), some l =>
    match l.req with
    | .confirm _ _ _ => l.entry.toList
    | .register kind reading word => (regEntry c kind reading word).toList
    | _ => []
  | _, _ => []

def takenBy (d : FSt) (ik : Nat × Nat) : List Entry :=
  match headEv d.st ik.1, d.locals[ik.1]? with
  | some (.recv .entry), some l =>
    match l.req with
    | .other => d.data.pending.head?.toList
    | _ => []
  | _, _ => []

def sentLog (c : Cfg) : FSt → List (Nat × Nat) → List Entry
  | _, [] => []
  | d, ik :: t => sentBy c d ik ++ sentLog c (fstep c d ik) t

def takenLog (c : Cfg) : FSt → List (Nat × Nat) → List Entry
  | _, [] => []
  | d, ik :: t => takenBy d ik ++ takenLog c (fstep c d ik) t

theorem effect_sent (c : Cfg) (l : Local) (s : State) :
    (effect c (.send .entry) l s).2.pending = s.pending ++
      match l.req with
      | .confirm _ _ _ => l.entry.toList
      | .register kind reading word => (regEntry c kind reading word).toList
      | _ => [] := by
  cases h : l.req with
  | conv ctx input => rw [effect_conv h]; exact (List.append_nil _).symm
  | confirm sid id now => rw [effect_confirm h]
  | register kind reading word => rw [effect_register h]
  | other => rw [effect_bg h]; exact (List.append_nil _).symm

theorem effect_taken (c : Cfg) (l : Local) (s : State) :
    s.pending = (match l.req with
      | .other => s.pending.head?.toList
      | _ => []) ++ (effect c (.recv .entry) l s).2.pending := by
  cases h : l.req with
  | conv ctx input => rw [effect_conv h]; rfl
  | confirm sid id now => rw [effect_confirm h]; rfl
  | register kind reading word => rw [effect_register h]; rfl
  | other => rw [effect_bg h]; cases s.pending <;> rfl

theorem queue_step (c : Cfg) (d : FSt) (ik : Nat × Nat) :
    d.data.pending ++ sentBy c d ik = takenBy d ik ++ (fstep c d ik).data.pending := by
  unfold sentBy takenBy fstep
  cases hh : headEv d.st ik.1 with
  | none => simp
  | some e =>
    cases hl : d.locals[ik.1]? with
    | none => simp
    | some l =>
      have keep : e ≠ .send .entry → e ≠ .recv .entry → _ := (effect_frame c e l d.data).pending
      cases e with
      | send ch =>
        cases ch with
        | entry => exact (effect_sent c l d.data).symm
        | tick => simp [keep nofun nofun]
      | recv ch =>
        cases ch with
        | entry => exact (List.append_nil _).trans (effect_taken c l d.data)
        | tick => simp [keep nofun nofun]
      | _ => simp [keep nofun nofun]

theorem effect_dict (c : Cfg) (e : Ev) (l : Local) (s : State) :
    (effect c e l s).2.dict = s.dict ∨
    ∃ en, l.entry = some en ∧ e = .act .mapInsert ∧ (effect c e l s).2.dict = (mergeEntry c s.dict en).getD s.dict := by
  by_cases hm : e = .act .mapInsert
  · subst hm
    cases h : l.req with
    | conv ctx input => rw [effect_conv h]; exact .inl rfl
    | confirm sid id now => rw [effect_confirm h]; exact .inl rfl
    | register kind reading word => rw [effect_register h]; exact .inl rfl
    | other =>
      rw [effect_bg h]
      cases he : l.entry with
      | none => exact .inl rfl
      | some en => exact .inr ⟨en, rfl, rfl, rfl⟩
  · exact .inl ((effect_frame c e l s).dict hm)

end Chokan.Fine
