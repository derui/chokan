/-
The session ledger: the invariant that both interleaving models of the session store keep (`dstep` of Model/Conc in
Lemmas/ConcSess, `fstep` of Model/Fine in Lemmas/FineSess), stated about plain functions and a list, and the three
things a step can do to it: nothing, issue the next id, pop an id.
-/

namespace Chokan

theorem find?_filter_ne {α : Type _} {key : α → Nat} (l : List α) {k k' : Nat} (h : k' ≠ k) :
    (l.filter (key · != k')).find? (key · == k) = l.find? (key · == k) := by
  rw [List.find?_filter]
  congr 1; funext a
  by_cases hk : key a = k
  · simp [hk, Ne.symm h]
  · simp [hk]

/-- Thread `i` has been issued the token `tok i` (an id, or a whole session, with id `key`); `gone i a`: a pop has
taken it out of the store (`dgone` reads only the thread, `fgone` only the token). -/
structure Ledger {α : Type} (key : α → Nat) (tok : Nat → Option α) (store : List α) (gone : Nat → α → Prop)
    (next : Nat) : Prop where
  below : ∀ i a, tok i = some a → key a < next
  storeBelow : ∀ x ∈ store, key x < next
  inj : ∀ i j a b, tok i = some a → tok j = some b → key a = key b → i = j
  kept : ∀ i a, tok i = some a → store.find? (key · == key a) = some a ∨ gone i a

namespace Ledger
variable {α : Type} {key : α → Nat} {tok tok' : Nat → Option α} {store : List α} {gone gone' : Nat → α → Prop}
  {next : Nat}

theorem init (htok : ∀ i, tok i = none) (hs : ∀ x ∈ store, key x < next) : Ledger key tok store gone next :=
  ⟨fun i a h => by simp [htok] at h, hs, fun i _ a _ h => by simp [htok] at h, fun i a h => by simp [htok] at h⟩

theorem frame (h : Ledger key tok store gone next) (htok : ∀ i, tok' i = tok i)
    (hg : ∀ i a, tok i = some a → gone i a → gone' i a) : Ledger key tok' store gone' next := by
  obtain rfl : tok' = tok := funext htok
  exact ⟨h.below, h.storeBelow, h.inj, fun i a hi => (h.kept i a hi).imp_right (hg i a hi)⟩

theorem issue (h : Ledger key tok store gone next) (i0 : Nat) (a0 : α) (hk : key a0 = next)
    (htok : ∀ i, tok' i = if i = i0 then some a0 else tok i)
    (hg : ∀ i a, tok i = some a → gone i a → gone' i a) :
    Ledger key tok' (store ++ [a0]) gone' (next + 1) := by
  subst hk
  have hcase : ∀ i a, tok' i = some a → (i = i0 ∧ a = a0) ∨ (i ≠ i0 ∧ tok i = some a) := by
    intro i a hi
    rw [htok] at hi
    split at hi
    · next h' => exact Or.inl ⟨h', (Option.some.inj hi).symm⟩
    · next h' => exact Or.inr ⟨h', hi⟩
  have hfresh : store.find? (key · == key a0) = none :=
    List.find?_eq_none.2 fun x hx he => Nat.lt_irrefl _ (eq_of_beq he ▸ h.storeBelow x hx)
  refine ⟨?_, ?_, ?_, ?_⟩
  · intro i a hi
    rcases hcase i a hi with ⟨_, rfl⟩ | ⟨_, hi⟩
    · exact Nat.lt_succ_self _
    · exact Nat.lt_succ_of_lt (h.below i a hi)
  · intro x hx
    rcases List.mem_append.1 hx with hx | hx
    · exact Nat.lt_succ_of_lt (h.storeBelow x hx)
    · rw [List.mem_singleton.1 hx]; exact Nat.lt_succ_self _
  · intro i j a b hi hj hab
    rcases hcase i a hi with ⟨rfl, rfl⟩ | ⟨_, hi⟩ <;> rcases hcase j b hj with ⟨rfl, rfl⟩ | ⟨_, hj⟩
    · rfl
    · exact absurd (h.below j b hj) (hab ▸ Nat.lt_irrefl _)
    · exact absurd (h.below i a hi) (hab ▸ Nat.lt_irrefl _)
    · exact h.inj i j a b hi hj hab
  · intro i a hi
    rw [List.find?_append]
    rcases hcase i a hi with ⟨_, rfl⟩ | ⟨_, hi⟩
    · exact Or.inl (by simp [hfresh])
    · exact (h.kept i a hi).imp (fun hin => by rw [hin]; rfl) (hg i a hi)

theorem pop (h : Ledger key tok store gone next) (k : Nat) (htok : ∀ i, tok' i = tok i)
    (hg : ∀ i a, tok i = some a → gone i a ∨ key a = k → gone' i a) :
    Ledger key tok' (store.filter (key · != k)) gone' next := by
  obtain rfl : tok' = tok := funext htok
  refine ⟨h.below, fun x hx => h.storeBelow x (List.mem_filter.1 hx).1, h.inj, ?_⟩
  intro i a hi
  rcases h.kept i a hi with hin | hgone
  · by_cases hk : key a = k
    · exact Or.inr (hg i a hi (Or.inr hk))
    · exact Or.inl ((find?_filter_ne store (Ne.symm hk)).trans hin)
  · exact Or.inr (hg i a hi (Or.inl hgone))

end Ledger
end Chokan
