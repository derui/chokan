/-
Lemmas for C18 (notes): what a successful parse of a notes line guarantees about its parts, one
lemma per rule of the grammar.
-/
import Chokan.Model.SkkNotes
import Chokan.Lemmas.DicText

namespace Chokan.SkkNotes
open Chokan.Dic Chokan.DicText Chokan.Skk

def KanaStr (s : Str) : Prop := ∀ c ∈ s, skkKana c = true

/-- The bounds are those of the SKK reading class `skkKana`: あ…ん, ぁ, ー. -/
theorem kanaRanges_sub : ∀ r ∈ Chokan.Gen.SkkNotes.kanaRanges,
    (0x3042 ≤ r.1 ∧ r.2 ≤ 0x3093) ∨ (r.1 = r.2 ∧ (r.1 = 0x3041 ∨ r.1 = 0x30FC)) := by
  decide +kernel

theorem notesKana_sub (c : Nat) (h : notesKana c = true) : skkKana c = true := by
  unfold notesKana inRanges at h
  obtain ⟨r, hr, hc⟩ := List.any_eq_true.1 h
  have hok := kanaRanges_sub r hr
  simp only [Bool.and_eq_true, Nat.ble_eq] at hc
  simp only [skkKana, Bool.or_eq_true, Bool.and_eq_true, Nat.ble_eq, Nat.beq_eq]
  omega

/-- A fixed okuri is a non-empty kana string. -/
def OkuriOK : Okuri → Prop
  | .fixed v => v ≠ [] ∧ KanaStr v
  | .charClass _ => True

def SpeechOK (sp : NoteSpeech) : Prop := ∀ o, sp.okuri = some o → OkuriOK o

theorem parseDashKana_ok (s k r : Str) (h : parseDashKana s = some (k, r)) : k ≠ [] ∧ KanaStr k := by
  unfold parseDashKana at h
  split at h
  · next r0 =>
    have hs := spanClass_fst notesKana r0
    split at h
    · cases h
    · next hne heq => cases h; rw [heq] at hs; exact ⟨hne, fun c hc => notesKana_sub c (hs c hc)⟩
  · cases h

theorem parseFixed_ok (s : Str) (o : Okuri) (r : Str) (h : parseFixed s = some (o, r)) : OkuriOK o := by
  unfold parseFixed at h
  split at h
  · split at h
    · next hl =>
      cases h
      -- the first element of the dash list is what `parseDashKana` returns
      rw [parseDashList] at hl
      split at hl
      · cases hl
      · next hd =>
        obtain ⟨rfl, _⟩ := Prod.mk.inj (Option.some.inj hl)
        exact parseDashKana_ok _ _ _ hd
    · cases h
  · cases h

theorem parseClass_ok (s : Str) (o : Okuri) (r : Str) (h : parseClass s = some (o, r)) : OkuriOK o := by
  unfold parseClass at h
  split at h
  · split at h
    · cases h
    · cases h; trivial
    · cases h
  · cases h

theorem parseOkuri1_ok (s : Str) (o : Okuri) (r : Str) (h : parseOkuri1 s = some (o, r)) : OkuriOK o := by
  unfold parseOkuri1 at h
  split at h
  · next hf => cases h; exact parseFixed_ok _ _ _ hf
  · exact parseClass_ok s o r h

theorem parseOkuri_ok (s : Str) (o : Okuri) (r : Str) (h : parseOkuri s = some (o, r)) : OkuriOK o := by
  unfold parseOkuri at h
  split at h
  · cases h
  · next h1 => split at h <;> (cases h; exact parseOkuri1_ok _ _ _ h1)

theorem parseOkuriOpt_ok (s : Str) (o : Okuri) (h : (parseOkuriOpt s).1 = some o) : OkuriOK o := by
  unfold parseOkuriOpt at h
  split at h
  · next hp => cases h; exact parseOkuri_ok _ _ _ hp
  · cases h

/-- An alternative of `parseSpeech1` has either an optional okuri after its tag (`parseOkuriOpt_ok`, which is `SpeechOK`
of such a speech unfolded) or an okuri that must follow (here). -/
theorem speechOK_req {x : Option Str} {o : Okuri} {r : Str} (heq : x.bind parseOkuri = some (o, r))
    {sp : NoteSpeech} (ho : sp.okuri = some o) : SpeechOK sp := by
  obtain ⟨t, -, ht⟩ := Option.bind_eq_some_iff.1 heq
  intro o' h
  cases ho.symm.trans h
  exact parseOkuri_ok t o r ht

theorem parseSpeech1_sat (s : Str) : (parseSpeech1 s).elim True fun x => x.1.elim True SpeechOK := by
  unfold parseSpeech1
  -- stated on the result, each alternative reduces to `SpeechOK` of the speech it builds
  split
  · exact parseOkuriOpt_ok _
  split
  · exact parseOkuriOpt_ok _
  split
  · exact parseOkuriOpt_ok _
  split
  · next heq => exact speechOK_req heq rfl
  split
  · next heq => exact speechOK_req heq rfl
  split
  · next heq => exact speechOK_req heq rfl
  split
  · exact parseOkuriOpt_ok _
  split
  · next heq => exact speechOK_req heq rfl
  split
  · trivial
  split
  · exact parseOkuriOpt_ok _
  split
  · exact parseOkuriOpt_ok _
  · trivial

theorem parseSpeech1_ok (s : Str) (sp : NoteSpeech) (r : Str) (h : parseSpeech1 s = some (some sp, r)) :
    SpeechOK sp := by
  have := parseSpeech1_sat s
  rwa [h] at this

theorem parseSpeechList_more_ok : ∀ (f : Nat) (r : Str) (sp : NoteSpeech),
    some sp ∈ (parseSpeechList.more f r).1 → SpeechOK sp
  | 0, r, sp, h => by simp [parseSpeechList.more] at h
  | f + 1, r, sp, h => by
    unfold parseSpeechList.more at h
    split at h
    · next r1 =>
      split at h
      · next sp2 r2 hp =>
        simp only at h
        rcases List.mem_cons.1 h with h | h
        · rw [← h] at hp; exact parseSpeech1_ok r1 sp r2 hp
        · exact parseSpeechList_more_ok f r2 sp h
      · simp at h
    · simp at h

theorem parseSpeechList_ok : ∀ (fuel : Nat) (s : Str) (sp : NoteSpeech),
    some sp ∈ (parseSpeechList fuel s).1 → SpeechOK sp
  | 0, s, sp, h => by simp [parseSpeechList] at h
  | fuel + 1, s, sp, h => by
    cases hp : parseSpeech1 s with
    | none => simp [parseSpeechList, hp] at h
    | some p =>
      obtain ⟨sp0, r⟩ := p
      simp only [parseSpeechList, hp] at h
      rcases List.mem_cons.1 h with h | h
      · rw [← h] at hp; exact parseSpeech1_ok s sp r hp
      · exact parseSpeechList_more_ok fuel r sp h

theorem parseSpeechs_ok (s : Str) (sps : List NoteSpeech) (r : Str) (h : parseSpeechs s = some (sps, r)) :
    ∀ sp ∈ sps, SpeechOK sp := by
  unfold parseSpeechs at h
  split at h
  · next r0 =>
    simp only [Option.some.injEq, Prod.mk.injEq] at h
    obtain ⟨rfl, _⟩ := h
    intro sp hsp
    obtain ⟨x, hx, hxe⟩ := List.mem_filterMap.1 hsp
    simp only [id] at hxe
    subst hxe
    exact parseSpeechList_ok _ _ sp hx
  · cases h

/-- An entry of a parsed note: fixed okuri are non-empty kana, the stem is non-empty and holds neither
`;` nor `/`. -/
def EntryOK (e : NoteEntry) : Prop := SpeechOK e.speech ∧ e.stem ≠ [] ∧ ∀ c ∈ e.stem, isStemCh c = true

theorem parseStemAnno_ok (s stem r : Str) (h : parseStemAnno s = some (stem, r)) :
    stem ≠ [] ∧ ∀ c ∈ stem, isStemCh c = true := by
  unfold parseStemAnno at h
  split at h
  · next r0 =>
    have hs := spanClass_fst isStemCh r0
    split at h
    · cases h
    · next hne heq => cases h; rw [heq] at hs; exact ⟨hne, hs⟩
    · cases h
  · cases h

theorem parseEntry1_ok (s : Str) (es : List NoteEntry) (r : Str) (h : parseEntry1 s = some (es, r)) :
    ∀ e ∈ es, EntryOK e := by
  intro e he
  unfold parseEntry1 at h
  simp only at h
  -- the rules of note_grammer.rs in order; the first three start with `parseStemAnno` (`hx`); all but `entry` yield no candidate
  split at h
  · next x hx =>
    cases h
    split at hx
    · cases hx
    · next stem r0 hst =>
      split at hx
      · cases hx -- okuri_nasi_entry
        cases he
      · split at hx
        · cases hx -- derived_entry
          cases he
        · split at hx
          · next sps _ hps => -- entry
            cases hx
            obtain ⟨sp, hsp, rfl⟩ := List.mem_map.1 he
            exact ⟨parseSpeechs_ok r0 sps _ hps sp hsp, parseStemAnno_ok s stem r0 hst⟩
          · cases hx
  · split at h -- no_entry
    · split at h
      · cases h
      · cases h
        cases he
      · cases h
        cases he
    · cases h

theorem parseEntries_ok : ∀ (fuel : Nat) (s : Str), ∀ es ∈ (parseEntries fuel s).1, ∀ e ∈ es, EntryOK e
  | 0, s, es, h => by simp [parseEntries] at h
  | fuel + 1, s, es, h => by
    unfold parseEntries at h
    split at h
    · next es0 r hp =>
      simp only at h
      rcases List.mem_cons.1 h with h | h
      · subst h; exact parseEntry1_ok s es r hp
      · exact parseEntries_ok fuel r es h
    · simp at h

theorem noteOkuri_ok (r : Str) : (noteOkuri r).1.length ≤ 1 ∧ ∀ c ∈ (noteOkuri r).1, isAlpha c = true := by
  unfold noteOkuri
  split
  · next c t =>
    by_cases ha : isAlpha c = true
    · rw [if_pos ha]; simp [ha]
    · rw [if_neg ha]; simp
  · simp

theorem parseNote_ok (s : Str) (n : Note) (h : parseNote s = .note n) :
    n.headword ≠ [] ∧ KanaStr n.headword ∧ n.okuri.length ≤ 1 ∧ (∀ c ∈ n.okuri, isAlpha c = true) ∧
    n.entries ≠ [] ∧ ∀ e ∈ n.entries, EntryOK e := by
  unfold parseNote at h
  split at h
  · cases h
  · simp only at h
    split at h
    · cases h
    · next hne =>
      split at h
      · cases h
      · split at h
        · split at h
          · cases h
          · next hfl =>
            cases h
            have hoL := noteOkuri_ok (spanClass notesKana s).2
            simp only [Bool.or_eq_true, List.isEmpty_iff, not_or] at hne
            refine ⟨hne.1, fun c hc => notesKana_sub c (spanClass_fst notesKana s c hc), hoL.1, hoL.2,
              fun h0 => hfl (List.isEmpty_iff.2 h0), fun e he => ?_⟩
            obtain ⟨es, hes, hee⟩ := List.mem_flatten.1 he
            exact parseEntries_ok _ _ es hes e hee
        · cases h

end Chokan.SkkNotes
