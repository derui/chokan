/-
Lemmas about the fine-grained model with data (Model/Fine): `effect` read by request kind; a handler / loop iteration
that runs with nothing in between does exactly what the atomic step of Model/Server does; every action runs under the
locks that protect its data (`GInv`), so critical sections on the same data never overlap (`isolated`).
-/
import Chokan.Model.Fine
import Chokan.Lemmas.Conc
import Chokan.Lemmas.ServerStep

namespace Chokan.Fine
open Chokan.Conc Chokan.Gen.Server Chokan.Server Chokan.Kkc Chokan.Dic

/-- the events of a list that can touch data (everything but lock acquisitions and releases) -/
def dataEvents (p : List Ev) : List Ev :=
  p.filter fun e => match e with
    | .acq _ => false
    | .rel _ => false
    | _ => true

variable {c : Cfg} {e : Ev} {l : Local} {s : State}

/-! `effect` read by request kind. Each arm is a pair of record updates, so that a component an event does not write is
read off by `rfl`. -/

theorem effect_conv {ctx : Ctx} {input : Str} (h : l.req = .conv ctx input) :
    effect c e l s =
      match e with
      | .act .compute =>
        ({ l with cands := (getCandidates c.tables input s.dict ctx (toKkcFreq s.freq) c.nCandidates c.fuel).getD [] }, s)
      | .act .addSession =>
        ({ l with stored := some ⟨s.nextSid, ctx, l.cands⟩ },
         { s with sessions := s.sessions ++ [⟨s.nextSid, ctx, l.cands⟩], nextSid := s.nextSid + 1 })
      | .respond => ({ l with answered := true }, s)
      | _ => (l, s) := by
  obtain ⟨r, cands, stored, popped, cand, entry, answered⟩ := l
  cases h
  unfold effect
  cases e with
  | act a => cases a <;> rfl
  | recv ch => cases ch <;> rfl
  | send ch => cases ch <;> rfl
  | _ => rfl

theorem effect_confirm {sid : Nat} {id : String} {now : Int} (h : l.req = .confirm sid id now) :
    effect c e l s =
      match e with
      | .act .popSession =>
        ({ l with popped := true,
                  cand := (popSession s.sessions sid).1.bind fun sess => (foundCand sess id).map fun cd => (sess.ctx, cd) },
         { s with sessions := (popSession s.sessions sid).2 })
      | .act .updFreq =>
        (l, { s with freq := match l.cand with
                | some (ctx, cand) =>
                  match independentWord cand.chain with
                  | some w => expire (updateWord s.freq ctx w now) now c.expiryMs
                  | none => s.freq
                | none => s.freq })
      | .act .updCompound =>
        ({ l with entry := match l.cand.bind fun p => withAffix p.2.chain with
                    | some (word, reading) => some ⟨word, reading, .noun .common⟩
                    | none => l.entry }, s)
      | .send .entry => (l, { s with pending := s.pending ++ l.entry.toList })
      | .respond => ({ l with answered := true }, s)
      | _ => (l, s) := by
  obtain ⟨r, cands, stored, popped, cand, entry, answered⟩ := l
  cases h
  unfold effect
  cases e with
  | act a =>
    cases a with
    | updFreq =>
      dsimp only
      rcases cand with _ | ⟨ctx, cand⟩
      · rfl
      · dsimp only; cases independentWord cand.chain <;> rfl
    | updCompound =>
      dsimp only
      cases (cand.bind fun p => withAffix p.2.chain) <;> rfl
    | _ => rfl
  | recv ch => cases ch <;> rfl
  | send ch =>
    cases ch with
    | tick => rfl
    | entry =>
      dsimp only
      cases entry with
      | none => simp
      | some en => rfl
  | _ => rfl

theorem effect_register {kind : RegKind} {reading word : Str} (h : l.req = .register kind reading word) :
    effect c e l s =
      match e with
      | .send .entry => (l, { s with pending := s.pending ++ (regEntry c kind reading word).toList })
      | .respond => ({ l with answered := true }, s)
      | _ => (l, s) := by
  obtain ⟨r, cands, stored, popped, cand, entry, answered⟩ := l
  cases h
  unfold effect
  cases e with
  | act a => cases a <;> rfl
  | recv ch => cases ch <;> rfl
  | send ch =>
    cases ch with
    | tick => rfl
    | entry =>
      dsimp only
      cases regEntry c kind reading word with
      | none => simp
      | some en => rfl
  | _ => rfl

theorem effect_bg (h : l.req = .other) :
    effect c e l s =
      match e with
      | .recv .entry => ({ l with entry := s.pending.head? }, { s with pending := s.pending.tail })
      | .act .addEntry => (l, { s with userDict := s.userDict ++ l.entry.toList })
      | .act .mapInsert =>
        (l, { s with dict := match l.entry with
                | some en => (mergeEntry c s.dict en).getD s.dict
                | none => s.dict })
      | .act .saveFiles => (l, save c s)
      | .respond => ({ l with answered := true }, s)
      | _ => (l, s) := by
  obtain ⟨r, cands, stored, popped, cand, entry, answered⟩ := l
  cases h
  unfold effect
  cases e with
  | act a =>
    cases a with
    | addEntry =>
      dsimp only
      cases entry with
      | none => simp
      | some en => rfl
    | mapInsert => dsimp only; cases entry <;> rfl
    | _ => rfl
  | recv ch => cases ch <;> rfl
  | send ch => cases ch <;> rfl
  | _ => rfl

theorem effect_acq (c : Cfg) (k : Lock) (l : Local) (s : State) : effect c (.acq k) l s = (l, s) := by
  unfold effect; cases l.req <;> rfl

theorem effect_rel (c : Cfg) (k : Lock) (l : Local) (s : State) : effect c (.rel k) l s = (l, s) := by
  unfold effect; cases l.req <;> rfl

theorem runAlone_nil (c : Cfg) (l : Local) (s : State) : runAlone c [] l s = (l, s) := rfl

theorem runAlone_cons (c : Cfg) (e : Ev) (p : List Ev) (l : Local) (s : State) :
    runAlone c (e :: p) l s = runAlone c p (effect c e l s).1 (effect c e l s).2 := by
  simp only [runAlone, List.foldl_cons]

theorem runAlone_data (c : Cfg) : ∀ (p : List Ev) (l : Local) (s : State),
    runAlone c p l s = runAlone c (dataEvents p) l s
  | [], _, _ => rfl
  | e :: r, l, s => by
    rw [runAlone_cons, runAlone_data c r]
    cases e with
    | acq k => rw [effect_acq]; rfl
    | rel k => rw [effect_rel]; rfl
    | _ => exact (runAlone_cons ..).symm

theorem alone_convert {c : Cfg} {p : List Ev} (hp : dataEvents p = [.act .compute, .act .addSession, .respond])
    {s s' : State} {ctx : Ctx} {input : Str} {sid : Nat} {cs : List Cand}
    (h : convert c s ctx input = some (s', sid, cs)) :
    (runAlone c p { req := .conv ctx input } s).2 = s' ∧
    (runAlone c p { req := .conv ctx input } s).1.cands = cs ∧
    (runAlone c p { req := .conv ctx input } s).1.stored = some ⟨sid, ctx, cs⟩ := by
  have hg := convert_answer c s ctx input
  obtain ⟨rfl, rfl⟩ := convert_eq_some h
  rw [h] at hg
  rw [runAlone_data, hp]
  simp only [runAlone_cons, runAlone_nil, effect_conv (ctx := ctx) (input := input), ← hg]
  exact ⟨rfl, rfl, rfl⟩

/-- `hp`: the path that enters every conditional block -/
theorem alone_confirm {c : Cfg} {p : List Ev}
    (hp : dataEvents p = [.act .popSession, .act .updFreq, .act .updCompound, .send .entry, .respond])
    {s : State} {sid : Nat} {id : String} {now : Int} :
    (runAlone c p { req := .confirm sid id now } s).2 = confirmId c s sid id now := by
  rw [runAlone_data, hp]
  simp only [runAlone_cons, runAlone_nil, effect_confirm (sid := sid) (id := id) (now := now)]
  -- both sides are the same three writes; what is left to compare is how they name the candidate
  unfold confirmId
  rw [confirm_eq]
  unfold learned queued chosen popSession foundCand
  cases s.sessions.find? (·.sid == sid) with
  | none => simp
  | some sess =>
    simp only [Option.bind_some]
    cases (candIndex sess.cands.length id).bind fun i => sess.cands[i]? with
    | none => simp
    | some cand =>
      simp only [Option.map_some, Option.bind_some]
      rcases withAffix cand.chain with _ | ⟨word, reading⟩ <;> rfl

theorem register_eq_regEntry (c : Cfg) (s : State) (kind : RegKind) (reading word : Str) :
    register c s kind reading word = (regEntry c kind reading word).map fun e => { s with pending := s.pending ++ [e] } :=
  rfl

theorem alone_register {c : Cfg} {p : List Ev} (hp : dataEvents p = [.send .entry, .respond])
    {s : State} {kind : RegKind} {reading word : Str} :
    (runAlone c p { req := .register kind reading word } s).2 = (register c s kind reading word).getD s := by
  rw [runAlone_data, hp, register_eq_regEntry]
  simp only [runAlone_cons, runAlone_nil, effect_register (kind := kind) (reading := reading) (word := word)]
  cases regEntry c kind reading word <;> simp

/-- `hok`: the entry conjugates (C12) -/
theorem alone_apply {c : Cfg} {p : List Ev}
    (hp : dataEvents p = [.recv .entry, .act .addEntry, .act .loopStart, .act .trieInsert, .act .mapInsert, .act .loopEnd])
    {s : State} (hok : ∀ e, s.pending.head? = some e → (mergeEntry c s.dict e).isSome = true) :
    some (runAlone c p { req := .other } s).2 = applyEntry c s := by
  rw [runAlone_data, hp]
  simp only [runAlone_cons, runAlone_nil, effect_bg]
  unfold applyEntry
  cases hpd : s.pending with
  | nil => simp; rw [← hpd]
  | cons e rest =>
    have := hok e (by simp [hpd])
    cases hm : mergeEntry c s.dict e with
    | none => rw [hm] at this; cases this
    | some d => simp [hm]

theorem alone_save {c : Cfg} {p : List Ev} (hp : dataEvents p = [.recv .tick, .act .saveFiles]) {s : State} :
    (runAlone c p { req := .other } s).2 = save c s := by
  rw [runAlone_data, hp]
  simp only [runAlone_cons, runAlone_nil, effect_bg]

structure GInv (s : St) : Prop where
  guarded : ∀ t ∈ s.threads, guarded t.held t.rest = true
  body : ∀ t ∈ s.threads, ∀ ps, t.body = some ps → ∀ p ∈ ps, Fine.guarded [] p = true

theorem guarded_tail {held : List Lock} {e : Ev} {r : List Ev}
    (h : guarded held (e :: r) = true) : guarded (heldAfter held e) r = true := by
  cases e <;> simp only [guarded, Bool.and_eq_true] at h <;> first | exact h.2 | exact h

theorem GInv_step {rank : Lock → Nat} {unb : Chan → Bool} {s : St} (hinv : Inv rank unb s) (hg : GInv s) (ik : Nat × Nat) :
    GInv (step s ik) := by
  refine ⟨?_, ?_⟩
  · exact step_forall ik hg.guarded
      (fun t ht e r hr => guarded_tail (by rw [← hr]; exact hg.guarded t ht))
      (fun t ht ps hr hb => by
        rw [show t.held = [] from disc_nil (by rw [← hr]; exact hinv.disc t ht)]
        exact getD_mem (P := fun p => guarded [] p = true) rfl (hg.body t ht ps hb))
  · exact step_forall ik hg.body (fun t ht _ _ _ => hg.body t ht) (fun t ht _ _ _ => hg.body t ht)

theorem GInv_run {rank : Lock → Nat} {unb : Chan → Bool} (sched : List (Nat × Nat)) {s : St}
    (hi : Inv rank unb s) (hg : GInv s) : GInv (run s sched) :=
  (List.foldlRecOn (motive := fun s => Inv rank unb s ∧ GInv s) sched step ⟨hi, hg⟩
    fun _ h ik _ => ⟨Inv_step h.1 ik, GInv_step h.1 h.2 ik⟩).2

theorem GInv_init {unb : Chan → Bool} {capOf : Chan → Nat} {reqs : List (List Ev)} {tasks : List (List (List Ev))}
    (hreq : ∀ p ∈ reqs, guarded [] p = true) (htask : ∀ ps ∈ tasks, ∀ p ∈ ps, guarded [] p = true) :
    GInv (initSt unb capOf reqs tasks) :=
  ⟨forall_initSt.2 ⟨hreq, fun _ _ => rfl⟩,
    forall_initSt.2 ⟨fun _ _ _ => nofun, fun ps hps _ h => by cases h; exact htask ps hps⟩⟩

theorem fstep_st (c : Cfg) (d : FSt) (ik : Nat × Nat) : (fstep c d ik).st = step d.st ik := by
  unfold fstep; split <;> rfl

theorem frun_st (c : Cfg) (sched : List (Nat × Nat)) (d : FSt) : (frun c d sched).st = run d.st sched := by
  induction sched generalizing d with
  | nil => rfl
  | cons a t ih => exact (ih (fstep c d a)).trans (congrArg (run · t) (fstep_st c d a))

/-- **Isolation.** While a thread holds a lock, no other thread executes an action on the data that lock protects. -/
theorem isolated {rank : Lock → Nat} {unb : Chan → Bool} {s : St} (hinv : Inv rank unb s) (hg : GInv s)
    (i j : Nat) (ti tj : Thread) (hi : s.threads[i]? = some ti) (hj : s.threads[j]? = some tj) (hij : i ≠ j)
    (l : Lock) (hl : l ∈ ti.held) (b : Act) (r : List Ev) (hr : tj.rest = .act b :: r) : l ∉ protects b := by
  intro hb
  have hgj := hg.guarded tj (List.mem_of_getElem? hj)
  rw [hr] at hgj
  simp only [guarded, Bool.and_eq_true, List.all_eq_true] at hgj
  have hlj : l ∈ tj.held := by simpa using hgj.1 l hb
  exact hij (hinv.excl i j ti tj l hi hj hl hlj)

end Chokan.Fine
