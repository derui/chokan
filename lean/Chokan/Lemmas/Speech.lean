/-
Relations between the part-of-speech predicates of Chokan.Model.DicTypes: affixes are ancillary words.
-/
import Chokan.Model.DicTypes

namespace Chokan.Dic

theorem Speech.isAncillary_of_isPrefix {s : Speech} (h : s.isPrefix = true) : s.isAncillary = true := by
  unfold Speech.isPrefix at h
  split at h
  · rfl
  · cases h

theorem Speech.isAncillary_of_isSuffix {s : Speech} (h : s.isSuffix = true) : s.isAncillary = true := by
  unfold Speech.isSuffix at h
  split at h
  · rfl
  · cases h

theorem Speech.isPrefix_eq_false {s : Speech} (h : s.isAncillary = false) : s.isPrefix = false :=
  Bool.eq_false_iff.2 fun hp => Bool.false_ne_true (h.symm.trans (Speech.isAncillary_of_isPrefix hp))

theorem Speech.isSuffix_eq_false {s : Speech} (h : s.isAncillary = false) : s.isSuffix = false :=
  Bool.eq_false_iff.2 fun hs => Bool.false_ne_true (h.symm.trans (Speech.isAncillary_of_isSuffix hs))

end Chokan.Dic
