/-
What the small functions of the lattice model compute: `lookup` returns entries stored under its key, `previous`
by kind of node, the three score tables are read by first match; the regenerated tables (`genTables`) and the
facts read off them by `decide`; the fold of one Viterbi step (`stepScore`) returns the best predecessor's score.
-/
import Chokan.Model.Kkc
import Chokan.Gen.Kkc

namespace Chokan.Kkc
open Chokan.Dic

theorem beqStr_iff : ∀ (a b : Str), beqStr a b = true ↔ a = b
  | [], [] | [], _ :: _ | _ :: _, [] => by simp [beqStr]
  | x :: xs, y :: ys => by simp [beqStr, beqStr_iff xs ys]

theorem mem_getD_nil {α : Type} (o : Option (List α)) (x : α) : x ∈ o.getD [] ↔ ∃ l, o = some l ∧ x ∈ l := by
  cases o <;> simp

theorem findMap_sound : ∀ (m : List (Str × List Word)) (key : Str) (ws : List Word),
    findMap key m = some ws → (key, ws) ∈ m
  | [], _, _, h => nomatch h
  | (k, v) :: t, key, ws, h => by
    unfold findMap at h
    split at h
    · next hb =>
      obtain rfl := Option.some.inj h
      exact (beqStr_iff _ _).1 hb ▸ List.mem_cons_self
    · exact List.mem_cons_of_mem _ (findMap_sound t key ws h)

theorem any_beqStr (key : Str) (trie : List Str) : trie.any (beqStr key) = true ↔ key ∈ trie := by
  simp [beqStr_iff]

theorem lookup_sound (trie : List Str) (m : List (Str × List Word)) (key : Str) (w : Word)
    (h : w ∈ lookup trie m key) : key ∈ trie ∧ ∃ ws, (key, ws) ∈ m ∧ w ∈ ws := by
  unfold lookup at h
  split at h
  · next ht =>
    obtain ⟨ws, hf, hw⟩ := (mem_getD_nil _ w).1 h
    exact ⟨(any_beqStr key trie).1 ht, ws, findMap_sound m key ws hf, hw⟩
  · cases h

theorem previous_bos (g : Graph) : previous g .bos = [] := rfl

theorem previous_eos (g : Graph) :
    previous g .eos = if g.length = 0 then [.bos] else g.getD (g.length - 1) [] := rfl

theorem previous_of_len (g : Graph) (b : Node) (h : 1 ≤ b.len) :
    previous g b = if b.endAt < b.len then [.bos] else g.getD (b.endAt - b.len) [] := by
  cases b with
  | word _ _ _ _ => rfl
  | virt _ _ _ _ => rfl
  | bos => simp [Node.len] at h
  | eos => simp [Node.len] at h

theorem Score.add_none_left (b : Score) : Score.add none b = none := by cases b <;> rfl
theorem Score.add_none_right (a : Score) : Score.add a none = none := by cases a <;> rfl

theorem firstMatch2_eq (prev cur : Speech) : ∀ l : List (SPat × SPat × Option Nat),
    firstMatch2 prev cur l = ((l.find? fun r => r.1.matches prev && r.2.1.matches cur).bind (·.2.2))
  | [] => rfl
  | (p, c, s) :: t => by
    rw [firstMatch2, List.find?_cons]
    cases p.matches prev && c.matches cur
    · exact firstMatch2_eq prev cur t
    · rfl

theorem headEdge_eq (ctx : Ctx) (sp : Speech) : ∀ l : List (SPat × Ctx × Option Nat),
    headEdge ctx sp l = match l.find? fun r => r.1.matches sp && decide (r.2.1 = ctx) with
      | some r => r.2.2
      | none => some 0
  | [] => rfl
  | (p, c, s) :: t => by
    rw [headEdge, List.find?_cons]
    cases p.matches sp && decide (c = ctx)
    · exact headEdge_eq ctx sp t
    · rfl

theorem headEdge_isSome (ctx : Ctx) (sp : Speech) (l : List (SPat × Ctx × Option Nat))
    (h : ∀ r ∈ l, r.2.2.isSome = true) : ∃ x, headEdge ctx sp l = some x := by
  rw [headEdge_eq]
  split
  · next r hr => exact Option.isSome_iff_exists.1 (h r (List.mem_of_find?_eq_some hr))
  · exact ⟨0, rfl⟩

theorem headEdge_unnamed (ctx : Ctx) (sp : Speech) (l : List (SPat × Ctx × Option Nat))
    (h : ∀ r ∈ l, r.2.1 ≠ ctx) : headEdge ctx sp l = some 0 := by
  rw [headEdge_eq, List.find?_eq_none.2 fun r hr => by simp [h r hr]]

theorem firstMatch1_append_isSome (sp : Speech) (l₂ : List (SPat × Option Nat)) :
    ∀ l₁ : List (SPat × Option Nat), (∀ r ∈ l₁, r.2.isSome = true) → (∃ r ∈ l₁, r.1.matches sp = true) →
      ∃ x, firstMatch1 sp (l₁ ++ l₂) = some x
  | [], _, ⟨_, hr, _⟩ => absurd hr List.not_mem_nil
  | (p, s) :: t, hs, ⟨r, hr, hm⟩ => by
    rw [List.cons_append, firstMatch1]
    split
    · exact Option.isSome_iff_exists.1 (hs (p, s) List.mem_cons_self)
    · next hp =>
      refine firstMatch1_append_isSome sp l₂ t (fun q hq => hs q (List.mem_cons_of_mem _ hq)) ⟨r, ?_, hm⟩
      rcases List.mem_cons.1 hr with rfl | hr
      · exact absurd hm hp
      · exact hr

theorem headMergeable_congr (t : Tables) (c1 c2 : Ctx) (sp : Speech)
    (h : ∀ p ∈ t.mergeHead, p.2 ≠ .only c1 ∧ p.2 ≠ .only c2) :
    headMergeable t c1 sp = headMergeable t c2 sp := by
  unfold headMergeable
  cases hf : t.mergeHead.find? (fun p => p.1.matches sp) with
  | none => rfl
  | some p =>
    have hp := h p (List.mem_of_find?_eq_some hf)
    match p, hp with
    | (_, .always), _ => rfl
    | (_, .only c), hp =>
      show decide (c = c1) = decide (c = c2)
      rw [decide_eq_false fun e : c = c1 => hp.1 (e ▸ rfl), decide_eq_false fun e : c = c2 => hp.2 (e ▸ rfl)]

/-- The score tables regenerated from score.rs / graph.rs. -/
def genTables : Tables :=
  { wordEdges := Chokan.Gen.Kkc.wordEdges, virtEdges := Chokan.Gen.Kkc.virtEdges, headEdges := Chokan.Gen.Kkc.headEdges,
    mergeHead := Chokan.Gen.Kkc.mergeHead, properBonus := Chokan.Gen.Kkc.properBonus }

theorem headEdge_some (ctx : Ctx) (sp : Speech) : ∃ x, headEdge ctx sp genTables.headEdges = some x :=
  headEdge_isSome ctx sp _ (by decide)

theorem virtEdge_some (sp : Speech) (h : sp.isAncillary = false) :
    ∃ x, firstMatch1 sp genTables.virtEdges = some x :=
  -- the fourth rule, `v if !v.is_ancillary()`, catches every independent word, and no rule before it refuses
  firstMatch1_append_isSome sp (Chokan.Gen.Kkc.virtEdges.drop 4) (Chokan.Gen.Kkc.virtEdges.take 4) (by decide)
    ⟨(.nonAncillary, some 0), by decide, by rw [SPat.matches, h]; rfl⟩

theorem prefix_headMergeable (ctx : Ctx) : headMergeable genTables ctx (.affix .prefix) = true := by
  cases ctx <;> decide

/-- One Viterbi step: `bestScore` is the maximum of the connectable predecessor scores. -/
def stepScore (t : Tables) (ctx : Ctx) (f : Freq) (cur p : Node) : Score :=
  Score.add (Score.add p.fwd (nodeScore t ctx f cur)) (edgeScore t ctx p cur)

theorem best_ge (sc b : Score) (x : Nat) (h : (∃ y, b = some y ∧ x ≤ y) ∨ ∃ y, sc = some y ∧ x ≤ y) :
    ∃ y, (if Score.gt sc b then sc else b) = some y ∧ x ≤ y := by
  rcases h with ⟨y, rfl, hy⟩ | ⟨y, rfl, hy⟩
  · cases sc with
    | none => exact ⟨y, rfl, hy⟩
    | some v =>
      by_cases hv : y < v
      · exact ⟨v, by simp [Score.gt, hv], by omega⟩
      · exact ⟨y, by simp [Score.gt, hv], hy⟩
  · cases b with
    | none => exact ⟨y, rfl, hy⟩
    | some i =>
      by_cases hv : i < y
      · exact ⟨y, by simp [Score.gt, hv], hy⟩
      · exact ⟨i, by simp [Score.gt, hv], by omega⟩

theorem foldl_best_ge (t : Tables) (ctx : Ctx) (f : Freq) (cur : Node) (prevs : List Node) (init : Score) (x : Nat)
    (h : (∃ y, init = some y ∧ x ≤ y) ∨ ∃ p ∈ prevs, stepScore t ctx f cur p = some x) :
    ∃ y, prevs.foldl (fun best p =>
      let sc := stepScore t ctx f cur p
      if Score.gt sc best then sc else best) init = some y ∧ x ≤ y := by
  induction prevs generalizing init with
  | nil =>
    rcases h with h | ⟨_, hp, _⟩
    · exact h
    · cases hp
  | cons q qs ih =>
    refine ih _ ?_
    rcases h with h | ⟨p, hp, hs⟩
    · exact Or.inl (best_ge _ init x (Or.inl h))
    · rcases List.mem_cons.1 hp with rfl | hp
      · exact Or.inl (best_ge _ init x (Or.inr ⟨x, hs, Nat.le_refl x⟩))
      · exact Or.inr ⟨p, hp, hs⟩

theorem foldl_best_mem (t : Tables) (ctx : Ctx) (f : Freq) (cur : Node) :
    ∀ (prevs : List Node) (init : Score) (y : Nat),
      prevs.foldl (fun best p =>
        let sc := stepScore t ctx f cur p
        if Score.gt sc best then sc else best) init = some y →
      init = some y ∨ ∃ p ∈ prevs, stepScore t ctx f cur p = some y
  | [], init, y, h => Or.inl (by simpa using h)
  | q :: qs, init, y, h => by
    simp only [List.foldl_cons] at h
    rcases foldl_best_mem t ctx f cur qs _ y h with h1 | ⟨p, hp, hs⟩
    · split at h1
      · exact Or.inr ⟨q, List.mem_cons_self, h1⟩
      · exact Or.inl h1
    · exact Or.inr ⟨p, List.mem_cons_of_mem _ hp, hs⟩

end Chokan.Kkc
