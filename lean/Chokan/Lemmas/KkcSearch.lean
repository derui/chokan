/-
The `while let Some(..) = heap.pop()` loop of the n-best search (C01, C02), and what holds of
everything it returns on any lattice and with any budget: every result is a `previous`-linked chain from
`bos` to `eos` with its exact score, and the list has at most `n` entries with pairwise different texts.

The body of the loop is written once (`searchStep`); `search` and `searchE` (which returns `none` when the fuel
runs out before the loop ends by itself) iterate it, and a predicate kept by the body holds of what they return
(`search_inv`, `searchE_inv`).  The heap is used only as a container here (`heapPush_mem`, `heapPop_mem`).
-/
import Chokan.Lemmas.Kkc
import Chokan.Lemmas.KkcHeap

namespace Chokan.Kkc
open Chokan.Dic

variable {t : Tables} {ctx : Ctx} {f : Freq} {g : Graph} {n : Nat}
variable {I : Heap → List Cand → List Str → Prop} {Q : List Cand → Prop}

/-- `previous`-linked chain ending in `eos`. -/
def IsChain (g : Graph) : List Node → Prop
  | [] => False
  | [n] => n = .eos
  | a :: b :: rest => a ∈ previous g b ∧ IsChain g (b :: rest)

/-- Score of a chain: sum over consecutive nodes `(a, b)` of `edge a b + node b`; `none` if some edge
does not connect. -/
def pathScore (t : Tables) (ctx : Ctx) (f : Freq) : List Node → Score
  | [] => some 0
  | [_] => some 0
  | a :: b :: rest =>
    Score.add (Score.add (edgeScore t ctx a b) (nodeScore t ctx f b)) (pathScore t ctx f (b :: rest))

theorem pathScore_cons2 (t : Tables) (ctx : Ctx) (f : Freq) (a b : Node) (rest : List Node) :
    pathScore t ctx f (a :: b :: rest) =
      Score.add (Score.add (edgeScore t ctx a b) (nodeScore t ctx f b)) (pathScore t ctx f (b :: rest)) := rfl

theorem nodeScore_isSome (t : Tables) (ctx : Ctx) (f : Freq) (v : Node) : ∃ x, nodeScore t ctx f v = some x := by
  cases v <;> simp [nodeScore]

def Connectable (t : Tables) (ctx : Ctx) : List Node → Prop
  | a :: b :: r => (∃ x, edgeScore t ctx a b = some x) ∧ Connectable t ctx (b :: r)
  | _ => True

theorem pathScore_some_iff (t : Tables) (ctx : Ctx) (f : Freq) :
    ∀ C : List Node, (∃ s, pathScore t ctx f C = some s) ↔ Connectable t ctx C
  | [] => ⟨fun _ => trivial, fun _ => ⟨0, rfl⟩⟩
  | [_] => ⟨fun _ => trivial, fun _ => ⟨0, rfl⟩⟩
  | a :: b :: r => by
    obtain ⟨nb, hnb⟩ := nodeScore_isSome t ctx f b
    rw [pathScore_cons2, hnb]
    simp only [Connectable, ← pathScore_some_iff t ctx f (b :: r)]
    cases edgeScore t ctx a b <;> cases pathScore t ctx f (b :: r) <;> simp [Score.add]

/-- The lattice offers the text `x`: some connectable path from `bos` spells it. -/
def Offers (t : Tables) (ctx : Ctx) (g : Graph) (x : Str) : Prop :=
  ∃ p, IsChain g (.bos :: p) ∧ Connectable t ctx (.bos :: p) ∧ (p.map Node.text).flatten = x

theorem memStr_iff (s : Str) : ∀ l : List Str, memStr s l = true ↔ s ∈ l
  | [] => by simp [memStr]
  | x :: t => by simp [memStr, memStr_iff s t, beqStr_iff]

/-- The body of the loop of `search`, with what happens when the loop ends (`done`) and when it goes on
(`next`) left open.  At `α := Prop` it is the precondition of one iteration: `searchStep t ctx f g n Q I h res seen`
says that the iteration from `(h, res, seen)` ends the loop with a list in `Q` or goes on in a state in `I`. -/
def searchStep {α : Sort _} (t : Tables) (ctx : Ctx) (f : Freq) (g : Graph) (n : Nat) (done : List Cand → α)
    (next : Heap → List Cand → List Str → α) (h : Heap) (res : List Cand) (seen : List Str) : α :=
  match heapPop h with
  | none => done res
  | some (c, h1) =>
    match c.chain with
    | .bos :: _ =>
      if memStr c.text seen then next h1 res seen
      else
        let res' := res ++ [c]
        if res'.length ≥ n then done res'
        else next (expand t ctx f g c h1) res' (c.text :: seen)
    | _ => next (expand t ctx f g c h1) res seen

def searchE (t : Tables) (ctx : Ctx) (f : Freq) (g : Graph) (n : Nat) :
    Nat → Heap → List Cand → List Str → Option (List Cand)
  | 0, _, _, _ => none
  | fuel + 1, h, res, seen => searchStep t ctx f g n some (searchE t ctx f g n fuel) h res seen

theorem search_succ (t : Tables) (ctx : Ctx) (f : Freq) (g : Graph) (n fuel : Nat) (h : Heap)
    (res : List Cand) (seen : List Str) :
    search t ctx f g n (fuel + 1) h res seen =
      searchStep t ctx f g n id (search t ctx f g n fuel) h res seen := rfl

theorem searchE_succ (t : Tables) (ctx : Ctx) (f : Freq) (g : Graph) (n fuel : Nat) (h : Heap)
    (res : List Cand) (seen : List Str) :
    searchE t ctx f g n (fuel + 1) h res seen =
      searchStep t ctx f g n some (searchE t ctx f g n fuel) h res seen := rfl

/-- Two instances of the body on the same state take the same branch.  This is how the instance at `Prop` meets
the one `search` or `searchE` runs: the uses pass `P := fun p o => p → …`, `p` the precondition, `o` the outcome. -/
theorem searchStep_rel {α β : Sort _} (P : α → β → Prop) {d : List Cand → α} {d' : List Cand → β}
    {k : Heap → List Cand → List Str → α} {k' : Heap → List Cand → List Str → β}
    (hd : ∀ R, P (d R) (d' R)) (hk : ∀ h r s, P (k h r s) (k' h r s))
    (h : Heap) (res : List Cand) (seen : List Str) :
    P (searchStep t ctx f g n d k h res seen) (searchStep t ctx f g n d' k' h res seen) := by
  unfold searchStep
  split
  · exact hd _
  · split
    · split
      · exact hk _ _ _
      · dsimp only
        split
        · exact hd _
        · exact hk _ _ _
    · exact hk _ _ _

theorem searchE_inv (hI : ∀ h res seen, I h res seen → searchStep t ctx f g n Q I h res seen) :
    ∀ (fuel : Nat) (h : Heap) (res : List Cand) (seen : List Str) (R : List Cand),
      I h res seen → searchE t ctx f g n fuel h res seen = some R → Q R
  | 0, _, _, _, _, _, hs => nomatch hs
  | fuel + 1, h, res, seen, R, hi, hs => by
    rw [searchE_succ] at hs
    exact searchStep_rel (fun p o => p → o = some R → Q R) (fun _ hq e => Option.some.inj e ▸ hq)
      (fun _ _ _ hi e => searchE_inv hI fuel _ _ _ R hi e) h res seen (hI h res seen hi) hs

/-- `hQ`: when the fuel runs out `search` returns `res` as it stands. -/
theorem search_inv (hI : ∀ h res seen, I h res seen → searchStep t ctx f g n Q I h res seen)
    (hQ : ∀ h res seen, I h res seen → Q res) :
    ∀ (fuel : Nat) (h : Heap) (res : List Cand) (seen : List Str), I h res seen →
      Q (search t ctx f g n fuel h res seen)
  | 0, h, res, seen, hi => hQ h res seen hi
  | fuel + 1, h, res, seen, hi => by
    rw [search_succ]
    exact searchStep_rel (fun p R => p → Q R) (fun _ hq => hq)
      (fun _ _ _ hi => search_inv hI hQ fuel _ _ _ hi) h res seen (hI h res seen hi)

theorem searchE_some : ∀ (fuel : Nat) (h : Heap) (res : List Cand) (seen : List Str) (R : List Cand),
    searchE t ctx f g n fuel h res seen = some R → search t ctx f g n fuel h res seen = R
  | 0, _, _, _, _, hs => nomatch hs
  | fuel + 1, h, res, seen, R, hs => by
    rw [searchE_succ] at hs
    rw [search_succ]
    exact searchStep_rel (fun o R' => o = some R → R' = R) (fun _ e => Option.some.inj e)
      (fun _ _ _ => searchE_some fuel _ _ _ R) h res seen hs

theorem searchE_mono : ∀ (fuel : Nat) (h : Heap) (res : List Cand) (seen : List Str) (R : List Cand),
    searchE t ctx f g n fuel h res seen = some R → searchE t ctx f g n (fuel + 1) h res seen = some R
  | 0, _, _, _, _, hs => nomatch hs
  | fuel + 1, h, res, seen, R, hs => by
    rw [searchE_succ] at hs ⊢
    exact searchStep_rel (fun o o' => o = some R → o' = some R) (fun _ e => e)
      (fun _ _ _ => searchE_mono fuel _ _ _ R) h res seen hs

theorem expand_nil (t : Tables) (ctx : Ctx) (f : Freq) (g : Graph) (c : Cand) (h : Heap) (hc : c.chain = []) :
    expand t ctx f g c h = h := by
  simp [expand, hc]

/-- Having output a complete candidate, the Rust loop runs its `for prev_node in graph.previsous_nodes(..)` over
nothing. -/
theorem expand_bos (t : Tables) (ctx : Ctx) (f : Freq) (g : Graph) (c : Cand) (h : Heap) (r : List Node)
    (hc : c.chain = .bos :: r) : expand t ctx f g c h = h := by
  simp [expand, hc, previous_bos]

/-- One iteration by cases; the next heap is written `expand … c h1` in all of them (for a complete `c` that is
`h1`: `expand_bos`).  `hskip` covers both "complete and seen before" and "not complete" (then its `∀ r` is vacuous). -/
theorem searchStep_intro {h : Heap} {res : List Cand} {seen : List Str}
    (hempty : heapPop h = none → Q res)
    (hpop : ∀ c h1, heapPop h = some (c, h1) →
      ((∀ r, c.chain = .bos :: r → c.text ∈ seen) → I (expand t ctx f g c h1) res seen) ∧
      (∀ r, c.chain = .bos :: r → c.text ∉ seen → (n ≤ res.length + 1 → Q (res ++ [c])) ∧
        (res.length + 1 < n → I (expand t ctx f g c h1) (res ++ [c]) (c.text :: seen)))) :
    searchStep t ctx f g n Q I h res seen := by
  fun_cases searchStep t ctx f g n Q I h res seen with
  | case1 hp => exact hempty hp
  | case2 c h1 hp r hc hm =>
    rw [← expand_bos t ctx f g c h1 r hc]
    exact (hpop c h1 hp).1 fun _ _ => (memStr_iff _ _).1 hm
  | case3 c h1 hp r hc hm res' hle =>
    exact ((hpop c h1 hp).2 r hc (mt (memStr_iff _ _).2 hm)).1 (by simpa [res'] using hle)
  | case4 c h1 hp r hc hm res' hle =>
    exact ((hpop c h1 hp).2 r hc (mt (memStr_iff _ _).2 hm)).2 (by simpa [res'] using hle)
  | case5 c h1 hp hc => exact (hpop c h1 hp).1 fun r hr => absurd hr (hc r)

/-- The successor of candidate `c` (whose chain starts with `cur`) through the predecessor `p`. -/
def IsChild (t : Tables) (ctx : Ctx) (f : Freq) (c : Cand) (cur p : Node) (x : Cand) : Prop :=
  ∃ next prio, Score.add (Score.add (edgeScore t ctx p cur) (nodeScore t ctx f cur)) (some c.score) = some next ∧
    Score.add (some next) p.fwd = some prio ∧ x = { chain := p :: c.chain, score := next, priority := prio }

def pushChild (t : Tables) (ctx : Ctx) (f : Freq) (c : Cand) (cur : Node) (h : Heap) (p : Node) : Heap :=
  match Score.add (Score.add (edgeScore t ctx p cur) (nodeScore t ctx f cur)) (some c.score) with
  | some next =>
    match Score.add (some next) p.fwd with
    | some prio => heapPush h { chain := p :: c.chain, score := next, priority := prio }
    | none => h
  | none => h

theorem expand_eq (t : Tables) (ctx : Ctx) (f : Freq) (g : Graph) (c : Cand) (h : Heap) (cur : Node)
    (rest : List Node) (hc : c.chain = cur :: rest) :
    expand t ctx f g c h = (previous g cur).foldl (pushChild t ctx f c cur) h := by
  unfold expand
  split
  · next h0 => rw [hc] at h0; cases h0
  · next cur' rest' h0 =>
    rw [hc] at h0
    obtain rfl : cur = cur' := by injection h0
    rfl

theorem pushChild_cases (t : Tables) (ctx : Ctx) (f : Freq) (c : Cand) (cur : Node) (h : Heap) (p : Node) :
    (pushChild t ctx f c cur h p = h ∧ ∀ x, ¬ IsChild t ctx f c cur p x) ∨
    ∃ y, pushChild t ctx f c cur h p = heapPush h y ∧ ∀ x, IsChild t ctx f c cur p x ↔ x = y := by
  unfold pushChild IsChild
  cases h1 : Score.add (Score.add (edgeScore t ctx p cur) (nodeScore t ctx f cur)) (some c.score) with
  | none => exact Or.inl ⟨rfl, fun x ⟨_, _, hn, _⟩ => nomatch hn⟩
  | some next =>
    dsimp only
    cases h2 : Score.add (some next) p.fwd with
    | none =>
      refine Or.inl ⟨rfl, fun x ⟨n', _, hn, hp, _⟩ => ?_⟩
      cases hn; rw [h2] at hp; cases hp
    | some prio =>
      refine Or.inr ⟨_, rfl, fun x => ⟨fun ⟨n', p', hn, hp, hx⟩ => ?_, fun hx => ⟨next, prio, rfl, h2, hx⟩⟩⟩
      cases hn; rw [h2] at hp; cases hp; exact hx

theorem pushChild_mem (c : Cand) (cur : Node) (h : Heap) (p : Node) (x : Cand) :
    x ∈ pushChild t ctx f c cur h p ↔ (x ∈ h ∨ IsChild t ctx f c cur p x) := by
  rcases pushChild_cases t ctx f c cur h p with ⟨he, hno⟩ | ⟨y, he, hy⟩
  · rw [he]; exact ⟨Or.inl, fun hx => hx.resolve_right (hno x)⟩
  · rw [he, heapPush_mem, hy x]

theorem expand_mem {c : Cand} {cur : Node} {rest : List Node} (hc : c.chain = cur :: rest) (h : Heap) (x : Cand) :
    x ∈ expand t ctx f g c h ↔ (x ∈ h ∨ ∃ p ∈ previous g cur, IsChild t ctx f c cur p x) := by
  rw [expand_eq t ctx f g c h cur rest hc]
  generalize previous g cur = ps
  induction ps generalizing h with
  | nil => simp
  | cons p ps ih =>
    rw [List.foldl_cons, ih, pushChild_mem]
    simp only [List.mem_cons, exists_eq_or_imp, or_assoc]

theorem pop_expand_forall {P : Cand → Prop}
    (hnew : ∀ c cur rest p x, P c → c.chain = cur :: rest → p ∈ previous g cur → IsChild t ctx f c cur p x → P x)
    {h h1 : Heap} {c : Cand} (hp : heapPop h = some (c, h1)) (hh : ∀ x ∈ h, P x) :
    P c ∧ ∀ x ∈ expand t ctx f g c h1, P x := by
  have hpop := heapPop_mem h c h1 hp
  have hc := hh c ((hpop c).2 (Or.inr rfl))
  refine ⟨hc, fun x hx => ?_⟩
  cases hcc : c.chain with
  | nil => exact hh x ((hpop x).2 (Or.inl (expand_nil t ctx f g c h1 hcc ▸ hx)))
  | cons cur rest =>
    rcases (expand_mem hcc h1 x).1 hx with hx | ⟨p, hpp, hch⟩
    · exact hh x ((hpop x).2 (Or.inl hx))
    · exact hnew c cur rest p x hc hcc hpp hch

theorem search_forall (P : Cand → Prop)
    (hnew : ∀ c cur rest p x, P c → c.chain = cur :: rest → p ∈ previous g cur → IsChild t ctx f c cur p x → P x)
    (fuel : Nat) (h : Heap) (res : List Cand) (seen : List Str) (hh : ∀ x ∈ h, P x)
    (hres : ∀ x ∈ res, P x ∧ ∃ r, x.chain = .bos :: r) :
    ∀ x ∈ search t ctx f g n fuel h res seen, P x ∧ ∃ r, x.chain = .bos :: r := by
  refine search_inv (I := fun h res _ => (∀ x ∈ h, P x) ∧ ∀ x ∈ res, P x ∧ ∃ r, x.chain = .bos :: r)
    (fun h res seen ⟨hh, hres⟩ => searchStep_intro (fun _ => hres) fun c h1 hp => ?_) (fun _ _ _ hi => hi.2)
    fuel h res seen ⟨hh, hres⟩
  obtain ⟨hc, hexp⟩ := pop_expand_forall hnew hp hh
  refine ⟨fun _ => ⟨hexp, hres⟩, fun r hcc _ => ?_⟩
  have hres' := List.forall_mem_append.2 ⟨hres, List.forall_mem_singleton.2 ⟨hc, r, hcc⟩⟩
  exact ⟨fun _ => hres', fun _ => ⟨hexp, hres'⟩⟩

theorem nBest_sound (t : Tables) (ctx : Ctx) (f : Freq) (g : Graph) (n fuel : Nat) :
    ∀ c ∈ nBest t ctx f g n fuel,
      (IsChain g c.chain ∧ pathScore t ctx f c.chain = some c.score) ∧ ∃ r, c.chain = .bos :: r := by
  refine search_forall (fun c => IsChain g c.chain ∧ pathScore t ctx f c.chain = some c.score) ?_
    fuel _ [] [] ?_ (fun x hx => nomatch hx)
  · rintro c cur rest p x ⟨hch, hsc⟩ hcc hp ⟨_, _, hnext, _, rfl⟩
    simp only [hcc] at hch hsc ⊢
    exact ⟨⟨hp, hch⟩, by rw [pathScore_cons2, hsc]; exact hnext⟩
  · intro x hx
    obtain rfl : x = _ := by simpa [heapPush_mem] using hx
    exact ⟨rfl, rfl⟩

theorem nBest_chains (t : Tables) (ctx : Ctx) (f : Freq) (g : Graph) (n fuel : Nat) :
    ∀ c ∈ nBest t ctx f g n fuel, IsChain g c.chain ∧ ∃ r, c.chain = .bos :: r :=
  fun c hc => ⟨(nBest_sound t ctx f g n fuel c hc).1.1, (nBest_sound t ctx f g n fuel c hc).2⟩

theorem nBest_scores (t : Tables) (ctx : Ctx) (f : Freq) (g : Graph) (n fuel : Nat) :
    ∀ c ∈ nBest t ctx f g n fuel, pathScore t ctx f c.chain = some c.score :=
  fun c hc => (nBest_sound t ctx f g n fuel c hc).1.2

theorem seenEq_snoc {res : List Cand} {seen : List Str} (hs : ∀ x, x ∈ seen ↔ x ∈ res.map Cand.text) (c : Cand) :
    ∀ x, x ∈ c.text :: seen ↔ x ∈ (res ++ [c]).map Cand.text := by
  intro x; simp [hs x, or_comm]

theorem search_list_inv (fuel : Nat) (h : Heap) (res : List Cand) (seen : List Str)
    (hl : res.length < n) (hnd : (res.map Cand.text).Nodup) (hseen : ∀ x, x ∈ seen ↔ x ∈ res.map Cand.text) :
    (search t ctx f g n fuel h res seen).length ≤ n ∧ ((search t ctx f g n fuel h res seen).map Cand.text).Nodup := by
  refine search_inv (Q := fun R => R.length ≤ n ∧ (R.map Cand.text).Nodup)
    (I := fun _ res seen => res.length < n ∧ (res.map Cand.text).Nodup ∧ ∀ x, x ∈ seen ↔ x ∈ res.map Cand.text)
    (fun _ res seen hi => searchStep_intro (fun _ => ⟨Nat.le_of_lt hi.1, hi.2.1⟩) fun c _ _ => ⟨fun _ => hi, ?_⟩)
    (fun _ _ _ hi => ⟨Nat.le_of_lt hi.1, hi.2.1⟩) fuel h res seen ⟨hl, hnd, hseen⟩
  obtain ⟨hl, hnd, hseen⟩ := hi
  intro _ _ hnew
  have hnd' : ((res ++ [c]).map Cand.text).Nodup := by
    rw [List.map_append, List.nodup_append]
    refine ⟨hnd, by simp, ?_⟩
    intro a ha b hb hab
    obtain rfl : b = c.text := by simpa using hb
    exact hnew ((hseen _).2 (hab ▸ ha))
  exact ⟨fun _ => ⟨by simp; omega, hnd'⟩, fun hlt => ⟨by simpa using hlt, hnd', seenEq_snoc hseen c⟩⟩

end Chokan.Kkc
