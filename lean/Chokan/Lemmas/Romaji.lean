/-
Lemmas for the romaji engine model (C19, C17), generic in the table.  The recursion of `conv` is
packaged once (`conv_nil`, `conv_cons`, `conv_induct`); nothing after them mentions fuel.  The side
conditions on the table (`noEmptyKey`, `prefixFree`, …) are decidable and are checked on the regenerated
tables in the property files.  At the end the hiragana→katakana map (`hiraToKata_eq_flatMap`).
-/
import Chokan.Model.Romaji

namespace Chokan.Romaji

theorem beqStr_iff : ∀ (a b : Str), beqStr a b = true ↔ a = b
  | [], [] => by simp [beqStr]
  | [], _ :: _ => by simp [beqStr]
  | _ :: _, [] => by simp [beqStr]
  | x :: xs, y :: ys => by
    simp [beqStr, beqStr_iff xs ys]

theorem beqStr_refl (a : Str) : beqStr a a = true := (beqStr_iff a a).2 rfl

theorem memNat_iff (c : Nat) : ∀ l : List Nat, memNat c l = true ↔ c ∈ l
  | [] => by simp [memNat]
  | x :: t => by simp [memNat, memNat_iff c t]

theorem assoc_cons (k k' v' : Str) (t : Table) :
    assoc k ((k', v') :: t) = if k = k' then some v' else assoc k t := by
  simp only [assoc, beqStr_iff]

theorem assoc_mem : ∀ {table : Table} {k v : Str}, assoc k table = some v → (k, v) ∈ table
  | (k', v') :: t, k, v, h => by
    rw [assoc_cons] at h
    split at h
    · next e => cases h; exact e ▸ List.mem_cons_self
    · exact List.mem_cons_of_mem _ (assoc_mem h)

theorem assoc_ne_none_of_mem : ∀ {table : Table} {k v : Str}, (k, v) ∈ table → assoc k table ≠ none
  | (k', v') :: t, k, v, h => by
    rw [assoc_cons]
    split
    · exact nofun
    · next hne =>
      rcases List.mem_cons.1 h with h | h
      · cases h; exact absurd rfl hne
      · exact assoc_ne_none_of_mem h

/-- `c` occurs in some key of the table. -/
def keyChar : Table → Nat → Bool
  | [], _ => false
  | (k, _) :: t, c => memNat c k || keyChar t c

def noEmptyKey (table : Table) : Bool := table.all fun kv => !kv.1.isEmpty

theorem keyChar_iff : ∀ {table : Table} {c : Nat}, keyChar table c = true ↔ ∃ kv ∈ table, c ∈ kv.1
  | [], c => by simp [keyChar]
  | (k, v) :: t, c => by simp [keyChar, memNat_iff, keyChar_iff (table := t)]

theorem assoc_none_of_mem (table : Table) (s : Str) (c : Nat) (hc : c ∈ s) (hk : keyChar table c = false) :
    assoc s table = none := by
  cases h : assoc s table with
  | none => rfl
  | some v => rw [keyChar_iff.2 ⟨_, assoc_mem h, hc⟩] at hk; cases hk

theorem assoc_nil_of_noEmptyKey (table : Table) (hk : noEmptyKey table = true) : assoc [] table = none := by
  cases h : assoc [] table with
  | none => rfl
  | some v => simpa using List.all_eq_true.1 hk _ (assoc_mem h)

theorem findKey_eq_findSome (table : Table) (input : Str) : ∀ todo start,
    findKey table input todo start =
      (List.range' start todo).findSome? fun l => (assoc (input.take l) table).map (l, ·)
  | 0, _ => rfl
  | todo + 1, start => by
    rw [findKey, Nat.min_comm, ← List.take_eq_take_min, List.range'_succ, List.findSome?_cons,
      ← findKey_eq_findSome table input todo (start + 1)]
    cases assoc (input.take start) table <;> rfl

theorem findKey_eq_none_iff (table : Table) (input : Str) (todo start : Nat) :
    findKey table input todo start = none ↔
      ∀ l, start ≤ l → l < start + todo → assoc (input.take l) table = none := by
  simp [findKey_eq_findSome, List.mem_range'_1]

theorem findSome?_eq_find?_bind {α β} (f : α → Option β) :
    ∀ l : List α, l.findSome? f = (l.find? fun a => (f a).isSome).bind f
  | [] => rfl
  | a :: l => by
    rw [List.findSome?_cons, List.find?_cons, findSome?_eq_find?_bind f l]
    cases h : f a <;> simp [h]

theorem findKey_eq_some_iff (table : Table) (input : Str) (len : Nat) (v : Str) (todo start : Nat) :
    findKey table input todo start = some (len, v) ↔
      start ≤ len ∧ len < start + todo ∧ assoc (input.take len) table = some v ∧
      ∀ l, start ≤ l → l < len → assoc (input.take l) table = none := by
  rw [findKey_eq_findSome, findSome?_eq_find?_bind, Option.bind_eq_some_iff]
  simp only [List.find?_range'_eq_some, List.mem_range'_1, Option.map_eq_some_iff, Prod.mk.injEq, Option.isSome_map,
    Bool.not_eq_true', Option.isSome_eq_false_iff, Option.isNone_iff_eq_none]
  constructor
  · rintro ⟨l, ⟨-, ⟨h2, h3⟩, h4⟩, v', hv, rfl, rfl⟩
    exact ⟨h2, h3, hv, h4⟩
  · rintro ⟨h1, h2, h3, h4⟩
    exact ⟨len, ⟨by rw [h3]; rfl, ⟨h1, h2⟩, h4⟩, v, h3, rfl, rfl⟩

/-- Two inputs that agree on every probed prefix give the same search result. -/
theorem findKey_congr (table : Table) (i1 i2 : Str) :
    ∀ (todo start : Nat),
      (∀ l, start ≤ l → l < start + todo →
        assoc (i1.take (min i1.length l)) table = assoc (i2.take (min i2.length l)) table) →
      findKey table i1 todo start = findKey table i2 todo start
  | 0, _, _ => rfl
  | todo + 1, start, h => by
    unfold findKey
    rw [h start (Nat.le_refl _) (by omega)]
    split
    · rfl
    · exact findKey_congr table i1 i2 todo (start + 1) (fun l h1 h2 => h l (by omega) (by omega))

variable {table : Table} {cons : List Nat} {bound : Nat}

theorem findKey_len (hk : noEmptyKey table = true)
    {input : Str} {len : Nat} {v : Str} (hf : findKey table input bound 0 = some (len, v)) :
    1 ≤ len ∧ len ≤ input.length := by
  obtain ⟨_, _, h3, h4⟩ := (findKey_eq_some_iff table input len v bound 0).1 hf
  refine ⟨Nat.pos_of_ne_zero fun e => ?_, Nat.le_of_not_lt fun hc => ?_⟩
  · rw [e, List.take_zero, assoc_nil_of_noEmptyKey table hk] at h3
    cases h3
  · -- a probe longer than the input sees the whole input, as the probe of length `|input|` did
    rw [List.take_of_length_le (Nat.le_of_lt hc), ← List.take_length (l := input), h4 _ (Nat.zero_le _) hc] at h3
    cases h3

theorem stepKey_of_none {c : Nat} {t : Str} (h : findKey table (c :: t) bound 0 = none) :
    stepKey table bound (c :: t) = some ([c], t) := by
  simp only [stepKey, h]

theorem stepKey_of_some (hk : noEmptyKey table = true) {input : Str} {len : Nat} {v : Str}
    (h : findKey table input bound 0 = some (len, v)) :
    stepKey table bound input = some (v, input.drop len) := by
  simp only [stepKey, h]
  exact if_pos (findKey_len hk h).2

theorem stepKey_progress (hk : noEmptyKey table = true) (input : Str) (hne : input ≠ []) :
    ∃ v rest, stepKey table bound input = some (v, rest) ∧ rest.length < input.length := by
  cases hf : findKey table input bound 0 with
  | some p =>
    have := findKey_len hk hf
    exact ⟨_, _, stepKey_of_some hk hf, by rw [List.length_drop]; omega⟩
  | none =>
    cases input with
    | nil => exact absurd rfl hne
    | cons c rest => exact ⟨_, _, stepKey_of_none hf, Nat.lt_succ_self _⟩

theorem stripSokuon_cons (cons : List Nat) (a : Nat) (rest : Str) :
    stripSokuon cons (a :: rest) =
      if sokuonP cons (a :: rest) then
        (0x3063 :: (stripSokuon cons rest).1, (stripSokuon cons rest).2)
      else ([], a :: rest) := by
  rw [stripSokuon]

theorem stripSokuon_of_not (cons : List Nat) (s : Str) (h : sokuonP cons s = false) :
    stripSokuon cons s = ([], s) := by
  cases s with
  | nil => rfl
  | cons a t => rw [stripSokuon_cons, h]; rfl

theorem stripSokuon_spec (cons : List Nat) : ∀ input : Str,
    sokuonP cons (stripSokuon cons input).2 = false ∧
    (stripSokuon cons input).2.length ≤ input.length ∧
    (input ≠ [] → (stripSokuon cons input).2 ≠ []) ∧
    ∀ c ∈ (stripSokuon cons input).1, c = 0x3063
  | [] => ⟨rfl, Nat.le_refl _, id, nofun⟩
  | a :: t => by
    obtain ⟨hnot, hlen, hne, hall⟩ := stripSokuon_spec cons t
    rw [stripSokuon_cons]
    split
    · next h =>
      have ht : t ≠ [] := by rintro rfl; cases h
      exact ⟨hnot, Nat.le_succ_of_le hlen, fun _ => hne ht, List.forall_mem_cons.2 ⟨rfl, hall⟩⟩
    · next h => exact ⟨Bool.not_eq_true _ ▸ h, Nat.le_refl _, id, nofun⟩

theorem step_progress (cons : List Nat) (bound : Nat) (hk : noEmptyKey table = true) (a : Nat) (t : Str) :
    ∃ v rest, stepKey table bound (stripSokuon cons (a :: t)).2 = some (v, rest) ∧ rest.length ≤ t.length := by
  obtain ⟨_, hlen, hne, _⟩ := stripSokuon_spec cons (a :: t)
  obtain ⟨v, rest, hstep, hlt⟩ := stepKey_progress hk _ (hne (List.cons_ne_nil a t))
  exact ⟨v, rest, hstep, by rw [List.length_cons] at hlen; omega⟩

theorem conv_nil : conv table cons bound [] = some [] := by
  unfold conv convFuel; rfl

private theorem convFuel_cons (fuel : Nat) (a : Nat) (t : Str) :
    convFuel table cons bound (fuel + 1) (a :: t) =
      (stepKey table bound (stripSokuon cons (a :: t)).2).bind fun p =>
        (convFuel table cons bound fuel p.2).map ((stripSokuon cons (a :: t)).1 ++ p.1 ++ ·) := by
  rw [convFuel]
  cases stripSokuon cons (a :: t) with
  | mk e r =>
    simp only
    cases stepKey table bound r with
    | none => rfl
    | some p =>
      obtain ⟨v, rest⟩ := p
      simp only [Option.bind_some]
      cases convFuel table cons bound fuel rest <;> rfl

private theorem convFuel_fuel (hk : noEmptyKey table = true) :
    ∀ (f1 f2 : Nat) (input : Str), input.length < f1 → input.length < f2 →
      convFuel table cons bound f1 input = convFuel table cons bound f2 input
  | _, _, [], _, _ => by unfold convFuel; rfl
  | 0, _, _ :: _, h, _ => by simp at h
  | _, 0, _ :: _, _, h => by simp at h
  | f1 + 1, f2 + 1, a :: t, h1, h2 => by
    obtain ⟨v, rest, hstep, hle⟩ := step_progress cons bound hk a t
    rw [convFuel_cons, convFuel_cons, hstep]
    simp only [Option.bind_some]
    have hlt1 := Nat.lt_of_le_of_lt hle (Nat.lt_of_succ_lt_succ h1)
    have hlt2 := Nat.lt_of_le_of_lt hle (Nat.lt_of_succ_lt_succ h2)
    rw [convFuel_fuel hk f1 f2 rest hlt1 hlt2]

theorem conv_cons (hk : noEmptyKey table = true) (a : Nat) (t : Str) :
    conv table cons bound (a :: t) =
      (stepKey table bound (stripSokuon cons (a :: t)).2).bind fun p =>
        (conv table cons bound p.2).map ((stripSokuon cons (a :: t)).1 ++ p.1 ++ ·) := by
  obtain ⟨v, rest, hstep, hle⟩ := step_progress cons bound hk a t
  unfold conv
  rw [List.length_cons, convFuel_cons, hstep]
  simp only [Option.bind_some]
  rw [convFuel_fuel hk (t.length + 1) (rest.length + 1) rest] <;> omega

theorem conv_induct (cons : List Nat) (bound : Nat) (hk : noEmptyKey table = true) {motive : Str → Prop}
    (nil : motive [])
    (step : ∀ a t v rest, stepKey table bound (stripSokuon cons (a :: t)).2 = some (v, rest) →
      motive rest → motive (a :: t)) : ∀ s, motive s
  | [] => nil
  | a :: t => by
    obtain ⟨v, rest, hstep, hle⟩ := step_progress cons bound hk a t
    exact step a t v rest hstep (conv_induct cons bound hk nil step rest)
termination_by s => s.length
decreasing_by exact Nat.lt_succ_of_le hle

theorem conv_total (hk : noEmptyKey table = true) (s : Str) : ∃ out, conv table cons bound s = some out := by
  induction s using conv_induct cons bound hk with
  | nil => exact ⟨[], conv_nil⟩
  | step a t v rest hstep ih =>
    obtain ⟨out, ho⟩ := ih
    exact ⟨_, by rw [conv_cons hk, hstep, Option.bind_some, ho]; rfl⟩

theorem conv_sokuon (hk : noEmptyKey table = true) (c : Nat) (hc : c ∈ cons) (rest : Str) :
    conv table cons bound (c :: c :: rest) = (conv table cons bound (c :: rest)).map (0x3063 :: ·) := by
  have hsok : sokuonP cons (c :: c :: rest) = true := by simp [sokuonP, (memNat_iff c cons).2 hc]
  rw [conv_cons hk, conv_cons hk c rest, stripSokuon_cons cons c (c :: rest), if_pos hsok]
  cases stepKey table bound (stripSokuon cons (c :: rest)).2 with
  | none => rfl
  | some p => simp only [Option.bind_some]; cases conv table cons bound p.2 <;> rfl

theorem sokuonP_unmapped (c : Nat) (hc : memNat c cons = false) (ys : Str) : sokuonP cons (c :: ys) = false := by
  cases ys <;> simp [sokuonP, hc]

theorem stripSokuon_append (c : Nat) (hc : memNat c cons = false) (ys : Str) :
    ∀ xs : Str, stripSokuon cons (xs ++ c :: ys) = ((stripSokuon cons xs).1, (stripSokuon cons xs).2 ++ c :: ys)
  | [] => stripSokuon_of_not cons _ (sokuonP_unmapped c hc ys)
  | a :: xs => by
    have e : sokuonP cons (a :: (xs ++ c :: ys)) = sokuonP cons (a :: xs) := by
      cases xs with
      | nil => simp [sokuonP, hc]
      | cons b r => rfl
    rw [List.cons_append, stripSokuon_cons, stripSokuon_cons, e, stripSokuon_append c hc ys xs]
    split <;> rfl

theorem probe_past (c : Nat) (hkc : keyChar table c = false) (r ys : Str) (l : Nat) (hl : r.length < l) :
    assoc ((r ++ c :: ys).take l) table = none := by
  apply assoc_none_of_mem table _ c _ hkc
  rw [List.take_append, show l - r.length = (l - r.length - 1) + 1 by omega, List.take_succ_cons]
  simp

theorem stepKey_unmapped (hk : noEmptyKey table = true) (c : Nat) (hkc : keyChar table c = false) (ys : Str) :
    stepKey table bound (c :: ys) = some ([c], ys) := by
  refine stepKey_of_none ((findKey_eq_none_iff ..).2 fun l _ _ => ?_)
  rcases Nat.eq_zero_or_pos l with rfl | h0
  · exact assoc_nil_of_noEmptyKey table hk
  · exact probe_past c hkc [] ys l h0

/-- A failed search fails as well when the input is cut behind `r`, or continued there by a character
that is in no key. -/
theorem findKey_none_of_shared {r z i : Str} (hz : ∀ d ∈ z.head?, keyChar table d = false) (hr : r <+: i)
    (h : findKey table i bound 0 = none) : findKey table (r ++ z) bound 0 = none := by
  obtain ⟨s, rfl⟩ := hr
  have h := (findKey_eq_none_iff ..).1 h
  refine (findKey_eq_none_iff ..).2 fun l _ hl => ?_
  rcases Nat.lt_or_ge r.length l with hlt | hle
  · cases z with
    | nil =>
      rw [List.append_nil, List.take_of_length_le (Nat.le_of_lt hlt), ← List.take_left' (l₁ := r) (l₂ := s) rfl]
      exact h _ (Nat.zero_le _) (by omega)
    | cons d z => exact probe_past d (hz d rfl) r z l hlt
  · rw [List.take_append_of_le_length hle, ← List.take_append_of_le_length (l₂ := s) hle]
    exact h l (Nat.zero_le _) hl

theorem stepKey_append (hk : noEmptyKey table = true) (c : Nat) (hkc : keyChar table c = false)
    (r ys : Str) (hr : r ≠ []) :
    stepKey table bound (r ++ c :: ys) = (stepKey table bound r).map (fun p => (p.1, p.2 ++ c :: ys)) := by
  cases hf : findKey table r bound 0 with
  | none =>
    have hl := findKey_none_of_shared (z := c :: ys) (fun d hd => Option.some.inj hd ▸ hkc) (List.prefix_refl r) hf
    obtain ⟨a, t, rfl⟩ := List.exists_cons_of_ne_nil hr
    rw [stepKey_of_none hf]
    exact stepKey_of_none (t := t ++ c :: ys) hl
  | some p =>
    obtain ⟨h1, h2, h3, h4⟩ := (findKey_eq_some_iff ..).1 hf
    have hlen := (findKey_len hk hf).2
    -- the probes up to the match lie within `r`
    have hl : findKey table (r ++ c :: ys) bound 0 = some p := by
      refine (findKey_eq_some_iff ..).2 ⟨h1, h2, ?_, fun l a b => ?_⟩
      · rw [List.take_append_of_le_length hlen]
        exact h3
      · rw [List.take_append_of_le_length (by omega)]
        exact h4 l a b
    rw [stepKey_of_some hk hf, stepKey_of_some hk hl, List.drop_append_of_le_length hlen]
    rfl

theorem conv_passthrough (hk : noEmptyKey table = true) (xs ys : Str) (c : Nat)
    (hkc : keyChar table c = false) (hc : memNat c cons = false) :
    conv table cons bound (xs ++ c :: ys) =
      (conv table cons bound xs).bind fun a => (conv table cons bound ys).map fun b => a ++ c :: b := by
  induction xs using conv_induct cons bound hk with
  | nil =>
    rw [List.nil_append, conv_cons hk, stripSokuon_of_not cons _ (sokuonP_unmapped c hc ys),
      stepKey_unmapped hk c hkc ys, conv_nil]
    simp only [Option.bind_some]
    cases conv table cons bound ys <;> rfl
  | step a t v rest hstep ih =>
    obtain ⟨_, _, hne, _⟩ := stripSokuon_spec cons (a :: t)
    have hne : (stripSokuon cons (a :: t)).2 ≠ [] := hne (List.cons_ne_nil a t)
    rw [List.cons_append, conv_cons hk, ← List.cons_append, stripSokuon_append c hc ys (a :: t),
      stepKey_append hk c hkc _ ys hne, conv_cons hk a t, hstep]
    simp only [Option.map_some, Option.bind_some, ih]
    cases conv table cons bound rest with
    | none => rfl
    | some o => cases conv table cons bound ys <;> simp

def comparable : Str → Str → Bool
  | a :: as, b :: bs => Nat.beq a b && comparable as bs
  | _, _ => true

/-- No key is a prefix of the key of another row; in particular the keys are distinct. -/
def prefixFree : Table → Bool
  | [] => true
  | kv :: t => t.all (fun kv' => !comparable kv.1 kv'.1) && prefixFree t

theorem comparable_iff : ∀ a b : Str, comparable a b = true ↔ a <+: b ∨ b <+: a
  | [], _ => by simp [comparable]
  | _ :: _, [] => by simp [comparable]
  | x :: a, y :: b => by
    simp only [comparable, Bool.and_eq_true, Nat.beq_eq, comparable_iff a b, List.cons_prefix_cons, and_or_left,
      eq_comm (a := y)]

theorem prefixFree_unique : ∀ {table : Table}, prefixFree table = true →
    ∀ kv ∈ table, ∀ kv' ∈ table, kv.1 <+: kv'.1 → kv = kv'
  | r :: t, h, kv, hm, kv', hm', hp => by
    simp only [prefixFree, Bool.and_eq_true, List.all_eq_true, Bool.not_eq_true', ← Bool.not_eq_true,
      comparable_iff] at h
    rcases List.mem_cons.1 hm with rfl | h1 <;> rcases List.mem_cons.1 hm' with rfl | h2
    · rfl
    · exact absurd (Or.inl hp) (h.1 _ h2)
    · exact absurd (Or.inr hp) (h.1 _ h1)
    · exact prefixFree_unique h.2 kv h1 kv' h2 hp

theorem findKey_key (hp : prefixFree table = true) {k v : Str} (hm : (k, v) ∈ table)
    (s : Str) (hb : k.length < bound) :
    findKey table (k ++ s) bound 0 = some (k.length, v) := by
  refine (findKey_eq_some_iff ..).2 ⟨Nat.zero_le _, by omega, ?_, fun l _ hl => ?_⟩
  · rw [List.take_left' rfl]
    cases h : assoc k table with
    | none => exact absurd h (assoc_ne_none_of_mem hm)
    | some v' => cases prefixFree_unique hp _ (assoc_mem h) _ hm (List.prefix_refl _); rfl
  -- a shorter probe is a proper prefix of `k`, so it is no key
  · rw [List.take_append_of_le_length (Nat.le_of_lt hl)]
    cases h : assoc (k.take l) table with
    | none => rfl
    | some v' =>
      have := congrArg (fun kv => kv.1.length) (prefixFree_unique hp _ (assoc_mem h) _ hm (List.take_prefix _ _))
      simp at this; omega

theorem length_le_maxKey : ∀ {table : Table} {kv : Str × Str}, kv ∈ table → kv.1.length ≤ maxKey table
  | (k, v) :: t, kv, h => by
    unfold maxKey
    rcases List.mem_cons.1 h with rfl | h
    · exact Nat.le_max_right _ _
    · exact Nat.le_trans (length_le_maxKey h) (Nat.le_max_left _ _)

/-- A key is typed as its value, whatever follows, unless it starts a doubled consonant. -/
theorem conv_key_append (hk : noEmptyKey table = true) (hp : prefixFree table = true)
    (hb : maxKey table < bound) {k v : Str} (hm : (k, v) ∈ table) (s : Str)
    (hs : sokuonP cons (k ++ s) = false) :
    conv table cons bound (k ++ s) = (conv table cons bound s).map (v ++ ·) := by
  cases hks : k ++ s with
  | nil =>
    rw [(List.append_eq_nil_iff.1 hks).1] at hm
    exact absurd (assoc_nil_of_noEmptyKey table hk) (assoc_ne_none_of_mem hm)
  | cons a t =>
    have hkb : k.length < bound := Nat.lt_of_le_of_lt (length_le_maxKey hm) hb
    rw [conv_cons hk, ← hks, stripSokuon_of_not cons _ hs, stepKey_of_some hk (findKey_key hp hm s hkb), List.drop_left]
    rfl

theorem hiraToKata_eq_flatMap (kt : Table) :
    ∀ l : Str, hiraToKata kt l = l.flatMap fun c => (assoc [c] kt).getD [c]
  | [] => rfl
  | c :: t => by
    rw [hiraToKata, List.flatMap_cons, hiraToKata_eq_flatMap kt t]
    cases assoc [c] kt <;> rfl

theorem hiraToKata_append (kt : Table) (a b : Str) :
    hiraToKata kt (a ++ b) = hiraToKata kt a ++ hiraToKata kt b := by
  simp only [hiraToKata_eq_flatMap, List.flatMap_append]

theorem hiraToKata_singleton (kt : Table) (c : Nat) : hiraToKata kt [c] = (assoc [c] kt).getD [c] := by
  rw [hiraToKata_eq_flatMap, List.flatMap_singleton]

/-- Rows whose key did not occur earlier in the table (what `assoc` can return): the katakana table of
chokan.el lists を ↦ ヲ twice. -/
def firstOccurrencesAux : Table → List Str → Table
  | [], _ => []
  | (k, v) :: t, seen =>
    if seen.any (beqStr k) then firstOccurrencesAux t seen
    else (k, v) :: firstOccurrencesAux t (k :: seen)

def firstOccurrences (t : Table) : Table := firstOccurrencesAux t []

theorem assoc_of_mem_firstOccurrencesAux : ∀ (t : Table) (seen : List Str) (k v : Str),
    (k, v) ∈ firstOccurrencesAux t seen → assoc k t = some v ∧ k ∉ seen
  | (k', v') :: t, seen, k, v, h => by
    simp only [firstOccurrencesAux, List.any_eq_true, beqStr_iff, exists_eq_right'] at h
    rw [assoc_cons]
    split at h
    · next hs =>
      obtain ⟨h1, h2⟩ := assoc_of_mem_firstOccurrencesAux t seen k v h
      have hne : k ≠ k' := fun e => h2 (e ▸ hs)
      exact ⟨(if_neg hne).trans h1, h2⟩
    · next hs =>
      rcases List.mem_cons.1 h with h | h
      · cases h; exact ⟨if_pos rfl, hs⟩
      · obtain ⟨h1, h2⟩ := assoc_of_mem_firstOccurrencesAux t (k' :: seen) k v h
        have hne : k ≠ k' := fun e => h2 (e ▸ List.mem_cons_self)
        exact ⟨(if_neg hne).trans h1, fun hm => h2 (List.mem_cons_of_mem _ hm)⟩

end Chokan.Romaji
