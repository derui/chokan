/-
The `while let Some(..) = heap.pop()` loop of the n-best search terminates (C02).

Every candidate gets a weight: one plus the weights of all chains that extend it.  Popping a candidate
removes its weight from the heap and its children together weigh at least one less, so the total weight
of the heap decreases with every iteration.  Chains cannot grow for ever because every step towards the
start of the sentence moves to a strictly earlier position of the lattice.
-/
import Chokan.Lemmas.KkcAstar
import Chokan.Lemmas.KkcTiling

namespace Chokan.Kkc
open Chokan.Dic

def wsum (w : Cand → Nat) (h : Heap) : Nat := (h.toList.map w).sum

theorem wsum_perm (w : Cand → Nat) {h h' : Heap} (p : h.Perm h') : wsum w h = wsum w h' :=
  (p.toList.map w).sum_nat

theorem wsum_push (w : Cand → Nat) (h : Heap) (c : Cand) : wsum w (h.push c) = wsum w h + w c := by
  simp [wsum]

theorem heapPush_wsum (w : Cand → Nat) (h : Heap) (c : Cand) : wsum w (heapPush h c) = wsum w h + w c :=
  (wsum_perm w (heapPush_perm h c)).trans (wsum_push w h c)

theorem heapPop_wsum (w : Cand → Nat) (h : Heap) (c : Cand) (h' : Heap) (hp : heapPop h = some (c, h')) :
    wsum w h' + w c = wsum w h :=
  (wsum_push w h' c).symm.trans (wsum_perm w (heapPop_perm h c h' hp))

def wt (g : Graph) : Nat → Node → Nat
  | 0, _ => 1
  | d + 1, v => 1 + ((previous g v).map (wt g d)).sum

theorem wt_pos (g : Graph) : ∀ (d : Nat) (v : Node), 1 ≤ wt g d v
  | 0, _ => Nat.le_refl _
  | d + 1, v => by simp only [wt]; omega

/-- The weight of the chain's first node, to the depth the chain leaves of the `g.length + 2` nodes a chain can
have (`eos`, lattice nodes at strictly decreasing positions, `bos`: `TInv`). -/
def candW (g : Graph) (x : Cand) : Nat := wt g (g.length + 2 - x.chain.length) (x.chain.headD .bos)

/-- The chain is the root `[eos]`, or starts at `bos`, or at a lattice node early enough for the length the
chain has reached. -/
def TInv (g : Graph) (x : Cand) : Prop :=
  ∃ cur rest, x.chain = cur :: rest ∧
    (cur = .bos ∨ x.chain = [.eos] ∨ InG g cur ∧ x.chain.length + cur.endAt ≤ g.length + 1)

theorem child_tinv {t : Tables} {ctx : Ctx} {f : Freq} {input : Str} {g : Graph} (hg : GraphOK input g)
    (c : Cand) (cur : Node) (rest : List Node) (p : Node) (x : Cand) (hc : TInv g c)
    (hcc : c.chain = cur :: rest) (hp : p ∈ previous g cur) (hx : IsChild t ctx f c cur p x) : TInv g x := by
  obtain ⟨_, _, _, _, rfl⟩ := hx
  refine ⟨p, c.chain, rfl, (previous_mem g p cur hp).imp_right fun hin => Or.inr ⟨hin, ?_⟩⟩
  show c.chain.length + 1 + p.endAt ≤ g.length + 1
  obtain ⟨cur', _, hcc', hcase⟩ := hc
  obtain rfl : cur' = cur := by rw [hcc] at hcc'; injection hcc' with h; exact h.symm
  rcases hcase with rfl | hroot | ⟨hcur, hlen⟩
  · cases hp
  · obtain rfl : cur' = .eos := by rw [hroot] at hcc; injection hcc with h; exact h.symm
    have := endAt_of_mem_previous_eos hg hin hp
    have := hg.1
    rw [hroot, List.length_singleton]
    omega
  · have hl := (len_pos_of_ok input cur' (inG_ok input g hg cur' hcur).1).1
    have := endAt_of_mem_previous hg hin hl hp
    omega

theorem foldl_pushChild_wsum (t : Tables) (ctx : Ctx) (f : Freq) (g : Graph) (c : Cand) (cur : Node) :
    ∀ (ps : List Node) (h : Heap),
      wsum (candW g) (ps.foldl (pushChild t ctx f c cur) h) ≤
        wsum (candW g) h + (ps.map (wt g (g.length + 1 - c.chain.length))).sum
  | [], h => by simp
  | p :: ps, h => by
    simp only [List.foldl_cons, List.map_cons, List.sum_cons]
    have ih := foldl_pushChild_wsum t ctx f g c cur ps (pushChild t ctx f c cur h p)
    have hstep : wsum (candW g) (pushChild t ctx f c cur h p) ≤
        wsum (candW g) h + wt g (g.length + 1 - c.chain.length) p := by
      rcases pushChild_cases t ctx f c cur h p with ⟨he, _⟩ | ⟨y, he, hy⟩
      · rw [he]; exact Nat.le_add_right _ _
      · obtain ⟨_, _, _, _, rfl⟩ := (hy y).2 rfl
        rw [he, heapPush_wsum]
        simp [candW]
    omega

theorem expand_wsum (t : Tables) (ctx : Ctx) (f : Freq) (g : Graph) (c : Cand) (h : Heap) (hc : TInv g c) :
    wsum (candW g) (expand t ctx f g c h) + 1 ≤ wsum (candW g) h + candW g c := by
  obtain ⟨cur, rest, hcc, hcase⟩ := hc
  rw [expand_eq t ctx f g c h cur rest hcc]
  have hlen : cur = .bos ∨ c.chain.length ≤ g.length + 1 := by
    rcases hcase with hb | hroot | ⟨_, hl⟩
    · exact Or.inl hb
    · rw [hroot]; exact Or.inr (Nat.le_add_left 1 _)
    · exact Or.inr (Nat.le_of_add_right_le hl)
  rcases hlen with hb | hlen
  · subst hb
    have : 1 ≤ candW g c := wt_pos g _ _
    rw [previous_bos, List.foldl_nil]
    omega
  · have hfold := foldl_pushChild_wsum t ctx f g c cur (previous g cur) h
    have hw : candW g c = 1 + ((previous g cur).map (wt g (g.length + 1 - c.chain.length))).sum := by
      rw [candW, Nat.succ_sub hlen, hcc, List.headD_cons, wt]
    omega

theorem searchE_of_measure {t : Tables} {ctx : Ctx} {f : Freq} {g : Graph} {n : Nat} (J : Heap → Prop) (μ : Heap → Nat)
    (hstep : ∀ h c h1, J h → heapPop h = some (c, h1) →
      J (expand t ctx f g c h1) ∧ μ (expand t ctx f g c h1) < μ h) :
    ∀ (fuel : Nat) (h : Heap) (res : List Cand) (seen : List Str), J h → μ h < fuel →
      ∃ R, searchE t ctx f g n fuel h res seen = some R
  | 0, _, _, _, _, hw => by omega
  | fuel + 1, h, res, seen, hJ, hw => by
    rw [searchE_succ]
    have : searchStep t ctx f g n (fun _ => True) (fun h' _ _ => J h' ∧ μ h' < μ h) h res seen := by
      refine searchStep_intro (fun _ => trivial) fun c h1 hp => ?_
      -- wherever the step continues, it does so from `expand … c h1`
      have hnext := hstep h c h1 hJ hp
      exact ⟨fun _ => hnext, fun _ _ _ => ⟨fun _ => trivial, fun _ => hnext⟩⟩
    exact searchStep_rel (fun p o => p → ∃ R, o = some R) (fun R _ => ⟨R, rfl⟩)
      (fun _ _ _ hk => searchE_of_measure J μ hstep fuel _ _ _ hk.1 (by omega)) h res seen this

theorem nBestE_terminates (t : Tables) (ctx : Ctx) (f : Freq) (input : Str) (g : Graph) (hg : GraphOK input g)
    (n : Nat) : ∃ fuel R, nBestE t ctx f g n fuel = some R := by
  have hT0 : ∀ x ∈ heapPush #[] rootCand, TInv g x := by
    intro x hx
    obtain rfl : x = rootCand := by simpa [heapPush_mem] using hx
    exact ⟨.eos, [], rfl, Or.inr (Or.inl rfl)⟩
  refine ⟨_, searchE_of_measure (fun h => ∀ x ∈ h, TInv g x) (wsum (candW g)) ?_ _ _ [] [] hT0 (Nat.lt_succ_self _)⟩
  intro h c h1 hT hp
  obtain ⟨hcT, hT1⟩ := pop_expand_forall (child_tinv (t := t) (ctx := ctx) (f := f) hg) hp hT
  have hsum := heapPop_wsum (candW g) h c h1 hp
  have hexp := expand_wsum t ctx f g c h1 hcT
  exact ⟨hT1, by omega⟩

end Chokan.Kkc
