/-
Lemmas about the notes converter (converter.rs), up to the cutting of the dictionary ending: the generated
ending table, the byte slicing, `drop_dictionary_okuri`, `to_okuri_kana`.  Props/C18 goes on from
here to `get_dictionary_form` and `to_entries`.
-/
import Chokan.Lemmas.Dic
import Chokan.Lemmas.SkkNotes
import Chokan.Props.C10

namespace Chokan.SkkNotes
open Chokan.Dic Chokan.DicText Chokan.Skk
open Chokan.Props.C10 (storableSpeeches)
open Chokan.Gen.SkkNotes (skkOkuriTable)

/-- The form in which each step of the converter is specified: no panic, and `P` of a value.  `unsupported` is the
converter's own rejection and allowed throughout. -/
def CRes.Sat {α : Type} (P : α → Prop) : CRes α → Prop
  | .ok a => P a
  | .unsupported => True
  | .panic => False

section
variable {α : Type} {P Q : α → Prop} {r : CRes α}

theorem CRes.Sat.intro (hp : r ≠ .panic) (hok : ∀ a, r = .ok a → P a) : r.Sat P := by
  cases r with
  | ok a => exact hok a rfl
  | unsupported => trivial
  | panic => exact hp rfl

theorem CRes.Sat.ne_panic (h : r.Sat P) : r ≠ .panic := by
  rintro rfl
  exact h

theorem CRes.Sat.of_ok {a : α} (h : r.Sat P) (e : r = .ok a) : P a := by
  subst e
  exact h

theorem CRes.Sat.mono (h : r.Sat P) (hpq : ∀ a, P a → Q a) : r.Sat Q := by
  cases r with
  | ok a => exact hpq a h
  | _ => exact h

end

def CRes.pre (a : List Entry) : CRes (List Entry) → CRes (List Entry)
  | .ok l => .ok (a ++ l)
  | r => r

def tableOK : Bool :=
  skkOkuriTable.all fun p => p.2.all fun r =>
    decide (Speech.verb p.1 r.1 ∈ storableSpeeches) && r.2.all skkKana && !r.2.isEmpty

theorem verb_storable (cls : VerbClass) (k : Nat) (hk : k ∈ Props.C10.kata) :
    Speech.verb cls [k] ∈ storableSpeeches :=
  List.mem_append_right _ (List.mem_flatMap.2 ⟨cls, by cases cls <;> decide, List.mem_map.2 ⟨k, hk, rfl⟩⟩)

theorem nonverb_storable (sp : Speech) (h : ∀ cls row, sp ≠ .verb cls row) : sp ∈ storableSpeeches := by
  cases sp with
  | verb cls row => exact absurd rfl (h cls row)
  | noun v => cases v <;> decide +kernel
  | particle t => cases t <;> decide +kernel
  | affix v => cases v <;> decide +kernel
  | _ => decide +kernel

/-- Evaluated on the row letters only: a row letter of the grammar makes the verb storable (`verb_storable`);
deciding `∈ storableSpeeches` for each row is fifty times as dear. -/
theorem tableOK_true : tableOK = true := by
  have h : (skkOkuriTable.all fun p => p.2.all fun r =>
      (match r.1 with | [k] => decide (k ∈ Props.C10.kata) | _ => false) && r.2.all skkKana && !r.2.isEmpty) = true := by
    decide +kernel
  simp only [tableOK, List.all_eq_true, Bool.and_eq_true, decide_eq_true_eq] at h ⊢
  intro p hp r hr
  obtain ⟨⟨h1, h2⟩, h3⟩ := h p hp r hr
  refine ⟨⟨?_, h2⟩, h3⟩
  split at h1
  · next k hk => rw [hk]; exact verb_storable _ _ (of_decide_eq_true h1)
  · cases h1

theorem skkOkuri_some (cls : VerbClass) (row k : Str) (h : skkOkuri cls row = some k) :
    Speech.verb cls row ∈ storableSpeeches ∧ KanaStr k ∧ k ≠ [] := by
  unfold skkOkuri at h
  split at h
  · next c rows hf =>
    obtain ⟨r, hr, rfl⟩ := Option.map_eq_some_iff.1 h
    obtain rfl : c = cls := by simpa using List.find?_some hf
    obtain rfl : r.1 = row := by simpa using List.find?_some hr
    have hrows := List.all_eq_true.1 tableOK_true _ (List.mem_of_find?_eq_some hf)
    have hrow := List.all_eq_true.1 hrows r (List.mem_of_find?_eq_some hr)
    simp only [Bool.and_eq_true, decide_eq_true_eq, Bool.not_eq_true', List.isEmpty_eq_false_iff] at hrow
    obtain ⟨⟨hsp, hkana⟩, hne⟩ := hrow
    exact ⟨hsp, fun c hc => List.all_eq_true.1 hkana c hc, hne⟩
  · cases h

theorem utf8Len_kana (c : Nat) (h : skkKana c = true) : utf8Len c = 3 := by
  simp only [skkKana, Bool.or_eq_true, Bool.and_eq_true, Nat.ble_eq, Nat.beq_eq] at h
  unfold utf8Len
  have : 0x800 ≤ c ∧ c < 0x10000 := by omega
  rw [if_neg (by omega), if_neg (by omega), if_pos (by omega)]

theorem utf8LenStr_kana (a : Str) (h : KanaStr a) (hne : a ≠ []) : 3 ≤ utf8LenStr a := by
  cases a with
  | nil => exact absurd rfl hne
  | cons c t => have := utf8Len_kana c (h c (by simp)); simp [utf8LenStr]; omega

theorem takeBytes_spec : ∀ (w : Str) (n : Nat) (r : Str), takeBytes n w = some r → r <+: w ∧ utf8LenStr r = n
  | w, 0, r, h => by
    simp only [takeBytes, Option.some.injEq] at h
    subst h; exact ⟨List.nil_prefix, rfl⟩
  | [], n + 1, r, h => by simp [takeBytes] at h
  | c :: t, n + 1, r, h => by
    unfold takeBytes at h
    split at h
    · next hle =>
      obtain ⟨r', ht, rfl⟩ := Option.map_eq_some_iff.1 h
      obtain ⟨hp, hl⟩ := takeBytes_spec t _ r' ht
      exact ⟨List.cons_prefix_cons.2 ⟨rfl, hp⟩, by rw [utf8LenStr, hl]; omega⟩
    · cases h

theorem dropBytesEnd_spec (word : Str) (k : Nat) (r : Str) (h : dropBytesEnd word k = some r) :
    r <+: word ∧ utf8LenStr r + k = utf8LenStr word := by
  unfold dropBytesEnd at h
  split at h
  · obtain ⟨hp, hl⟩ := takeBytes_spec _ _ _ h
    exact ⟨hp, by omega⟩
  · cases h

theorem takeBytesFloor_prefix : ∀ (w : Str) (n : Nat), takeBytesFloor n w <+: w
  | [], n => by simp [takeBytesFloor]
  | c :: t, n => by
    unfold takeBytesFloor
    split
    · simpa using takeBytesFloor_prefix t _
    · exact List.nil_prefix

/-- the two models of `&s[..n]` (entry.rs, converter.rs) are one function -/
theorem takeBytes_eq_sliceBytes : ∀ (n : Nat) (w : Str), takeBytes n w = sliceBytes w n
  | 0, _ => by simp [takeBytes, sliceBytes]
  | _ + 1, [] => rfl
  | n + 1, c :: t => by simp only [takeBytes, sliceBytes, takeBytes_eq_sliceBytes (n + 1 - utf8Len c) t]

theorem takeBytes_append (x y : Str) : takeBytes (utf8LenStr x) (x ++ y) = some x := by
  rw [takeBytes_eq_sliceBytes, sliceBytes_prefix]

theorem dropBytesEnd_append (x y : Str) : dropBytesEnd (x ++ y) (utf8LenStr y) = some x := by
  rw [dropBytesEnd, Dic.utf8LenStr_append, if_pos (Nat.le_add_left _ _), Nat.add_sub_cancel, takeBytes_append]

def isAdj : NoteSpeech → Bool
  | .adjective _ | .adjectivalVerb _ => true
  | _ => false

/-- `drop_dictionary_okuri` returns a non-empty prefix of the word (for adjectives the word must be
longer than the three bytes cut off; every word the converter builds is). -/
theorem dropDict_spec (w : Str) (sp : NoteSpeech) (r : Str) (h : dropDictionaryOkuri w sp = .ok r)
    (hw : w ≠ []) (hadj : isAdj sp = true → 3 < utf8LenStr w) : r ≠ [] ∧ r <+: w := by
  have adj : isAdj sp = true → dropBytesEnd w 3 = some r → r ≠ [] ∧ r <+: w := by
    intro ha hk
    obtain ⟨hp, hl⟩ := dropBytesEnd_spec w 3 r hk
    refine ⟨?_, hp⟩
    rintro rfl
    have := hadj ha
    simp [utf8LenStr] at hl
    omega
  unfold dropDictionaryOkuri at h
  split at h
  · split at h
    · cases h
    · split at h
      · cases w with
        | nil => exact absurd rfl hw
        | cons c t => cases h; exact ⟨by simp, by simp⟩
      · next hne => cases h; exact ⟨hne, takeBytesFloor_prefix _ _⟩
  · split at h
    · next hd => cases h; exact adj rfl hd
    · cases h
  · split at h
    · next hd => cases h; exact adj rfl hd
    · cases h
  · cases h
    exact ⟨hw, List.prefix_refl _⟩

theorem dropDict_no_panic (w : Str) (sp : NoteSpeech) (hw : w ≠ [])
    (hadj : isAdj sp = true → ∃ x c, w = x ++ [c] ∧ utf8Len c = 3) : dropDictionaryOkuri w sp ≠ .panic := by
  have adj : isAdj sp = true → ∃ x, dropBytesEnd w 3 = some x := by
    intro ha
    obtain ⟨x, c, rfl, hc⟩ := hadj ha
    exact ⟨x, by simpa [utf8LenStr, hc] using dropBytesEnd_append x [c]⟩
  unfold dropDictionaryOkuri
  split
  · next cls row o =>
    split
    · nofun
    · split
      · cases w with
        | nil => exact absurd rfl hw
        | cons c t => nofun
      · nofun
  · obtain ⟨x, hx⟩ := adj rfl
    rw [hx]; nofun
  · obtain ⟨x, hx⟩ := adj rfl
    rw [hx]; nofun
  · nofun

theorem dropDict_verb (w : Str) (cls : VerbClass) (row : Str) (o : Option Okuri) (r : Str)
    (h : dropDictionaryOkuri w (.verb cls row o) = .ok r) : Speech.verb cls row ∈ storableSpeeches := by
  unfold dropDictionaryOkuri at h
  simp only at h
  split at h
  · cases h
  · next k hs => exact (skkOkuri_some cls row k hs).1

/-- `x ++ ok` is the form of the two words the converter cuts: a non-empty stem or headword, then the okuri kana
(not empty for an adjective). -/
theorem dropDict_kana (x ok : Str) (sp : NoteSpeech) (hx : x ≠ []) (hk : KanaStr ok)
    (hadj : isAdj sp = true → ok ≠ []) :
    (dropDictionaryOkuri (x ++ ok) sp).Sat fun r => r ≠ [] ∧ r <+: x ++ ok ∧
      ∀ cls row o, sp = .verb cls row o → Speech.verb cls row ∈ storableSpeeches := by
  have hne : x ++ ok ≠ [] := by simp [hx]
  refine .intro (dropDict_no_panic _ _ hne fun ha => ?_) fun r h => ?_
  · have hok := hadj ha
    refine ⟨x ++ ok.dropLast, ok.getLast hok, ?_, utf8Len_kana _ (hk _ (List.getLast_mem hok))⟩
    rw [List.append_assoc, List.dropLast_concat_getLast]
  · have ⟨h1, h2⟩ := dropDict_spec _ _ _ h hne fun ha => by
      have := Dic.utf8LenStr_pos x hx
      have := utf8LenStr_kana ok hk (hadj ha)
      rw [Dic.utf8LenStr_append]
      omega
    exact ⟨h1, h2, fun cls row o e => dropDict_verb _ cls row o r (e ▸ h)⟩

theorem kana_lit_i : KanaStr (lit "い") ∧ lit "い" ≠ [] := by
  unfold KanaStr
  decide +kernel

theorem kana_lit_da : KanaStr (lit "だ") ∧ lit "だ" ≠ [] := by
  unfold KanaStr
  decide +kernel

theorem kanaStr_nil : KanaStr [] := by intro c hc; cases hc

/-- All arms of `toOkuriKana` but the verb's have this shape (`o.toKana d` is it at `some o`). -/
theorem optKana_ok (o : Option Okuri) (d : Str) (ho : ∀ v, o = some v → OkuriOK v) (hd : KanaStr d) :
    KanaStr ((o.map (·.toKana d)).getD d) ∧ (d ≠ [] → (o.map (·.toKana d)).getD d ≠ []) := by
  cases o with
  | none => exact ⟨hd, id⟩
  | some v =>
    cases v with
    | fixed k => exact ⟨(ho _ rfl).2, fun _ => (ho _ rfl).1⟩
    | charClass _ => exact ⟨hd, id⟩

theorem toOkuriKana_sat (sp : NoteSpeech) (hs : SpeechOK sp) :
    (toOkuriKana sp).Sat fun ok => KanaStr ok ∧ (isAdj sp = true → ok ≠ []) := by
  have nil := fun o ho => (optKana_ok o [] ho kanaStr_nil).1
  cases sp with
  | verb cls row o =>
    simp only [toOkuriKana]
    split
    · exact ⟨(hs _ rfl).2, nofun⟩
    · split
      · next k hk => exact ⟨(skkOkuri_some _ _ _ hk).2.1, nofun⟩
      · trivial
  | adjective o =>
    obtain ⟨hk, hne⟩ := optKana_ok o _ hs kana_lit_i.1
    exact ⟨hk, fun _ => hne kana_lit_i.2⟩
  | adjectivalVerb o =>
    obtain ⟨hk, hne⟩ := optKana_ok (some o) _ hs kana_lit_da.1
    exact ⟨hk, fun _ => hne kana_lit_da.2⟩
  | counter o => exact ⟨kanaStr_nil, nofun⟩
  | adverb o | verbatim o => exact ⟨nil (some o) hs, nofun⟩
  | noun _ o | preNoun o | conjParticle o | conjunction o => exact ⟨nil o hs, nofun⟩

end Chokan.SkkNotes
