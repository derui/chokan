/-
Candidate-level completeness (C03).  A tiling of the input by nodes of the lattice (`Tiles`) is a `bos → … → eos` chain
(`chain_of_tiling`, Lemmas/KkcTiling); every pass of the construction only adds nodes (`Extends`), so what one step
pushes is there at the end (`foldl_has`): the looked-up words before the last pass (`wordLattice`), which adds the
virtual tail after each of them; with the regenerated score tables the paths `bos → word → rest → eos` and
`bos → prefix → word → rest → eos` are connectable (`head_path`, `prefix_path`).  The forward pass keeps such paths
(`paths_same`, Lemmas/KkcCounts); that the optimal search then returns their texts unless the list is cut at `n` is
`offered_of_path` in Props/C03.
-/
import Chokan.Lemmas.KkcTiling

namespace Chokan.Kkc
open Chokan.Dic

def Extends (g g' : Graph) : Prop := g.length = g'.length ∧ ∀ j, g.getD j [] ⊆ g'.getD j []

theorem extends_refl (g : Graph) : Extends g g := ⟨rfl, fun _ => List.Subset.refl _⟩

theorem extends_trans {a b c : Graph} (h1 : Extends a b) (h2 : Extends b c) : Extends a c :=
  ⟨h1.1.trans h2.1, fun j => (h1.2 j).trans (h2.2 j)⟩

theorem pushAt_extends (g : Graph) (j : Nat) (mk : Nat → Node) : Extends g (pushAt g j mk) := by
  refine ⟨(pushAt_length g j mk).symm, fun k => ?_⟩
  rw [getD_pushAt]
  split
  · next h => exact h.1 ▸ List.subset_append_left _ _
  · exact List.Subset.refl _

theorem ite_pushAt_extends (c : Prop) [Decidable c] (g : Graph) (j : Nat) (mk : Nat → Node) :
    Extends g (if c then pushAt g j mk else g) := by
  split
  · exact pushAt_extends g j mk
  · exact extends_refl g

theorem foldl_extends {α : Type} (f : Graph → α → Graph) (hf : ∀ g a, Extends g (f g a)) (l : List α) (g : Graph) :
    Extends g (l.foldl f g) :=
  List.foldlRecOn l f (extends_refl g) fun b hb a _ => extends_trans hb (hf b a)

theorem pushWords_extends (g : Graph) (j : Nat) (ws : List Word) : Extends g (pushWords g j ws) :=
  foldl_extends _ (fun g _ => pushAt_extends g j _) ws g

/-- The shape of the three look-up passes: a fold of `pushWords` over positions. -/
theorem foldl_pushWords_extends {α : Type} (pos : α → Nat) (lk : α → List Word) (as : List α) (g : Graph) :
    Extends g (as.foldl (fun g a => pushWords g (pos a) (lk a)) g) :=
  foldl_extends _ (fun g _ => pushWords_extends g _ _) as g

theorem findWordOnlyFirst_extends (g : Graph) (input : Str) (d : Dict) : Extends g (findWordOnlyFirst g input d) :=
  foldl_pushWords_extends _ _ _ g

theorem findWordAfterPrefix_extends (g : Graph) (input : Str) (d : Dict) (anc : Graph) :
    Extends g (findWordAfterPrefix g input d anc) :=
  foldl_extends _ (fun g _ => foldl_pushWords_extends _ _ _ g) _ g

theorem mergeAncillaries_extends (t : Tables) (g anc : Graph) (ctx : Ctx) : Extends g (mergeAncillaries t g anc ctx) :=
  foldl_extends _ (fun g _ => ite_pushAt_extends _ g _ _) _ g

/-- Some `mk idx` is stored at position `j`: the index a pushed node gets depends on what was pushed before it,
so it is left open. -/
def Has (g : Graph) (j : Nat) (mk : Nat → Node) : Prop := ∃ idx, mk idx ∈ g.getD j []

theorem Has.mono {g g' : Graph} {j : Nat} {mk : Nat → Node} (h : Extends g g') : Has g j mk → Has g' j mk
  | ⟨idx, hv⟩ => ⟨idx, h.2 j hv⟩

theorem pushAt_has (g : Graph) (j : Nat) (mk : Nat → Node) (hj : j < g.length) : Has (pushAt g j mk) j mk := by
  refine ⟨(g.getD j []).length, ?_⟩
  rw [getD_pushAt, if_pos ⟨rfl, hj⟩]
  exact List.mem_append_right _ (List.mem_singleton_self _)

theorem foldl_has {α : Type} {f : Graph → α → Graph} (hext : ∀ g a, Extends g (f g a)) {j : Nat} {mk : Nat → Node}
    {a0 : α} {as : List α} (ha : a0 ∈ as) {g : Graph} (hstep : ∀ g', Extends g g' → Has (f g' a0) j mk) :
    Has (as.foldl f g) j mk := by
  induction as generalizing g with
  | nil => cases ha
  | cons a as ih =>
    rcases List.mem_cons.1 ha with rfl | hin
    · exact (hstep g (extends_refl g)).mono (foldl_extends f hext as _)
    · exact ih hin fun g' he => hstep g' (extends_trans (hext g a) he)

def HasWord (g : Graph) (j : Nat) (w : Word) : Prop := Has g j (.word j · w (some 0))

theorem pushWords_has (g : Graph) (j : Nat) (hj : j < g.length) (ws : List Word) (w : Word) (hw : w ∈ ws) :
    HasWord (pushWords g j ws) j w :=
  foldl_has (fun g _ => pushAt_extends g j _) hw fun g' he => pushAt_has g' j _ (he.1 ▸ hj)

theorem foldl_pushWords_has {α : Type} {pos : α → Nat} {lk : α → List Word} {as : List α} {a0 : α} (ha : a0 ∈ as)
    {g : Graph} {j : Nat} (hpos : pos a0 = j) (hj : j < g.length) {w : Word} (hw : w ∈ lk a0) :
    HasWord (as.foldl (fun g a => pushWords g (pos a) (lk a)) g) j w := by
  subst hpos
  exact foldl_has (fun g _ => pushWords_extends g _ _) ha fun g' he => pushWords_has g' _ (he.1 ▸ hj) _ w hw

theorem findWordOnlyFirst_has (g : Graph) (input : Str) (d : Dict) (hlen : g.length = input.length)
    (i : Nat) (hi : i < input.length) (w : Word) (hw : w ∈ lookup d.stdTrie d.std (slice input 0 i)) :
    HasWord (findWordOnlyFirst g input d) i w :=
  foldl_pushWords_has (List.mem_range.2 hi) rfl (hlen ▸ hi) hw

theorem findAncillary_has (input : Str) (d : Dict) (i j : Nat) (hij : i ≤ j) (hj : j < input.length) (w : Word)
    (hw : w ∈ lookup d.ancTrie d.anc (slice input i j)) : HasWord (findAncillary input d) j w := by
  have hj' : i + (j - i) = j := Nat.add_sub_of_le hij
  refine foldl_has (fun g _ => foldl_pushWords_extends _ _ _ g) (a0 := i) (List.mem_range.2 (Nat.lt_of_le_of_lt hij hj))
    fun g he => ?_
  have hk := List.mem_range.2 (Nat.sub_lt_sub_right hij hj)
  have hjg : j < g.length := Nat.lt_of_lt_of_eq hj (List.length_replicate.symm.trans he.1)
  exact foldl_pushWords_has (a0 := j - i) hk hj' hjg (hj'.symm ▸ hw)

theorem findWordAfterPrefix_has (g : Graph) (input : Str) (d : Dict) (anc : Graph) (hlen : g.length = input.length)
    (p : Node) (hp : p ∈ anc.flatten) (hhead : isHeadPrefix p = true) (i : Nat) (hi : p.endAt + 1 ≤ i)
    (hin : i < input.length) (w : Word) (hw : w ∈ lookup d.stdTrie d.std (slice input (p.endAt + 1) i)) :
    HasWord (findWordAfterPrefix g input d anc) i w := by
  have hi' : p.endAt + 1 + (i - (p.endAt + 1)) = i := Nat.add_sub_of_le hi
  refine foldl_has (fun g _ => foldl_pushWords_extends _ _ _ g) (a0 := p) (List.mem_filter.2 ⟨hp, hhead⟩) fun g' he => ?_
  have hk := List.mem_range.2 (Nat.sub_lt_sub_right hi hin)
  have hig : i < g'.length := Nat.lt_of_lt_of_eq hin (hlen.symm.trans he.1)
  exact foldl_pushWords_has (a0 := i - (p.endAt + 1)) hk hi' hig (hi'.symm ▸ hw)

theorem mergeAncillaries_has (t : Tables) (g anc : Graph) (ctx : Ctx) (v : Node) (hv : v ∈ anc.flatten)
    (he : v.endAt < g.length) (hm : ∀ g', isMergeable t g' ctx v = true) :
    Has (mergeAncillaries t g anc ctx) v.endAt (reindex v) :=
  foldl_has (fun g _ => ite_pushAt_extends _ g _ _) hv fun g' he' => by
    rw [if_pos (hm g')]
    exact pushAt_has g' _ _ (he'.1 ▸ he)

def cvStep (input : Str) (g : Graph) (i : Nat) : Graph :=
  match g[i]? with
  | some (_ :: _) => pushAt g (input.length - 1) fun idx => .virt (input.length - 1) idx (input.drop (i + 1)) (some 0)
  | _ => g

theorem completeVirtual_eq (g : Graph) (input : Str) :
    completeVirtual g input = (List.range (input.length - 1)).reverse.foldl (cvStep input) g := rfl

theorem cvStep_extends (input : Str) (g : Graph) (i : Nat) : Extends g (cvStep input g i) := by
  unfold cvStep
  split
  · exact pushAt_extends g _ _
  · exact extends_refl g

theorem completeVirtual_extends (g : Graph) (input : Str) : Extends g (completeVirtual g input) :=
  foldl_extends _ (cvStep_extends input) _ g

def HasTail (input : Str) (g : Graph) (i : Nat) : Prop :=
  Has g (input.length - 1) (.virt (input.length - 1) · (input.drop i) (some 0))

theorem completeVirtual_tail (g : Graph) (input : Str) (hlen : g.length = input.length) (i : Nat)
    (hi : i + 1 < input.length) {a : Node} (ha : a ∈ g.getD i []) : HasTail input (completeVirtual g input) (i + 1) := by
  rw [completeVirtual_eq]
  refine foldl_has (cvStep_extends input) (a0 := i)
    (List.mem_reverse.2 (List.mem_range.2 (Nat.lt_sub_of_add_lt hi))) fun g' he => ?_
  obtain ⟨l, hl, hal⟩ := (mem_getD_iff g' i a).1 (he.2 i ha)
  unfold cvStep
  cases l with
  | nil => cases hal
  | cons b l =>
    rw [hl]
    have hlast : input.length - 1 < g'.length := by
      rw [← he.1, hlen]
      exact Nat.sub_lt (Nat.zero_lt_of_lt hi) Nat.one_pos
    exact pushAt_has g' _ _ hlast

theorem mem_flatten_of_getD {g : Graph} {j : Nat} {v : Node} (h : v ∈ g.getD j []) : v ∈ g.flatten := by
  obtain ⟨l, hl, hv⟩ := (mem_getD_iff g j v).1 h
  exact List.mem_flatten.2 ⟨l, List.mem_of_getElem? hl, hv⟩

def wordLattice (t : Tables) (input : Str) (d : Dict) (ctx : Ctx) : Graph :=
  mergeAncillaries t (findWordAfterPrefix (findWordOnlyFirst (List.replicate input.length []) input d) input d
    (findAncillary input d)) (findAncillary input d) ctx

theorem wordLattice_length (t : Tables) (input : Str) (d : Dict) (ctx : Ctx) :
    (wordLattice t input d ctx).length = input.length := by
  rw [wordLattice, ← (mergeAncillaries_extends ..).1, ← (findWordAfterPrefix_extends ..).1,
    ← (findWordOnlyFirst_extends ..).1]
  exact List.length_replicate

theorem fromInput_extends {t : Tables} {input : Str} {d : Dict} {ctx : Ctx} {g0 : Graph}
    (hg : fromInput t input d ctx = some g0) : Extends (wordLattice t input d ctx) g0 :=
  Option.some.inj hg ▸ completeVirtual_extends _ input

theorem wordLattice_head_word (t : Tables) {input : Str} {d : Dict} (ctx : Ctx) {i : Nat} (hi : i < input.length)
    {w : Word} (hw : w ∈ lookup d.stdTrie d.std (slice input 0 i)) : HasWord (wordLattice t input d ctx) i w :=
  -- the later passes only add nodes
  (findWordOnlyFirst_has (List.replicate input.length []) input d List.length_replicate i hi w hw).mono
    (extends_trans (findWordAfterPrefix_extends ..) (mergeAncillaries_extends ..))

theorem wordLattice_after_prefix {input : Str} {d : Dict} (ctx : Ctx)
    {k : Nat} {P : Word} (hP : P ∈ lookup d.ancTrie d.anc (slice input 0 k)) (hPsp : P.speech = .affix .prefix)
    (hPlen : P.reading.length = k + 1) {i : Nat} (hki : k + 1 ≤ i) (hi : i < input.length) {w : Word}
    (hw : w ∈ lookup d.stdTrie d.std (slice input (k + 1) i)) :
    HasWord (wordLattice genTables input d ctx) k P ∧ HasWord (wordLattice genTables input d ctx) i w := by
  have hk : k < input.length := by omega
  obtain ⟨idxA, hA⟩ := findAncillary_has input d 0 k (Nat.zero_le k) hk P hP
  have hstart : (Node.word k idxA P (some 0)).startAt = 0 := by
    simp only [Node.startAt, Node.endAt, Node.len, hPlen, Nat.add_sub_cancel, Nat.sub_self]
  have hlen1 : (findWordOnlyFirst (List.replicate input.length []) input d).length = input.length :=
    (findWordOnlyFirst_extends ..).1.symm.trans List.length_replicate
  have hW := findWordAfterPrefix_has _ input d _ hlen1 _ (mem_flatten_of_getD hA)
    (by simp [isHeadPrefix, hPsp, Speech.isPrefix, hstart]) i hki hi w hw
  constructor
  · -- the prefix, found in the ancillary lattice, is merged in
    refine mergeAncillaries_has genTables _ _ ctx (.word k idxA P (some 0)) (mem_flatten_of_getD hA) ?_ (fun g' => ?_)
    · rw [← (findWordAfterPrefix_extends ..).1, hlen1]
      exact hk
    · unfold isMergeable
      simp only [hstart, beq_self_eq_true, if_true, hPsp]
      exact prefix_headMergeable ctx
  · exact hW.mono (mergeAncillaries_extends ..)

theorem word_path {input : Str} {d : Dict} {ctx : Ctx} {g0 : Graph}
    (hg : fromInput genTables input d ctx = some g0) {s i : Nat} (hsi : s ≤ i) (hi : i < input.length) {w : Word}
    (hW : HasWord (wordLattice genTables input d ctx) i w) (hr : w.reading = slice input s i)
    (hind : w.speech.isAncillary = false) :
    ∃ idx r, Tiles g0 input.length s (.word i idx w (some 0) :: r) ∧
      Connectable genTables ctx (.word i idx w (some 0) :: (r ++ [.eos])) ∧
      ((r ++ [Node.eos]).map Node.text).flatten = input.drop (i + 1) := by
  obtain ⟨idx, hW3⟩ := hW
  have hW0 := (fromInput_extends hg).2 i hW3
  have hlen : s + w.reading.length = i + 1 := hr ▸ slice_length input s i hsi hi
  have hpos : 1 ≤ w.reading.length := by omega
  by_cases hfull : i + 1 = input.length
  · exact ⟨idx, [], ⟨hW0, hpos, hlen.symm, hfull⟩, ⟨⟨0, rfl⟩, trivial⟩, by rw [hfull, List.drop_length]; rfl⟩
  · have hlt : i + 1 < input.length := Nat.lt_of_le_of_ne hi hfull
    obtain ⟨vidx, hV0⟩ : HasTail input g0 (i + 1) :=
      Option.some.inj hg ▸ completeVirtual_tail _ input (wordLattice_length ..) i hlt hW3
    refine ⟨idx, [.virt (input.length - 1) vidx (input.drop (i + 1)) (some 0)], ⟨hW0, hpos, hlen.symm, hV0, ?_⟩, ?_,
      List.append_nil _⟩
    · have hn : input.length - 1 + 1 = input.length := Nat.sub_add_cancel (Nat.zero_lt_of_lt hi)
      simp only [Tiles, Node.len, Node.endAt, List.length_drop]
      exact ⟨Nat.sub_pos_of_lt hlt, hn.trans (Nat.add_sub_of_le (Nat.le_of_lt hlt)).symm, hn⟩
    · -- word → virtual tail → eos
      exact ⟨virtEdge_some w.speech hind, ⟨0, rfl⟩, trivial⟩

theorem head_path (input : Str) (d : Dict) (ctx : Ctx) (hd : Dict.WF d) (g0 : Graph)
    (hg0 : fromInput genTables input d ctx = some g0)
    (i : Nat) (hi : i < input.length) (w : Word) (hw : w ∈ lookup d.stdTrie d.std (slice input 0 i))
    (hind : w.speech.isAncillary = false) :
    Offers genTables ctx g0 (w.word ++ input.drop (i + 1)) := by
  obtain ⟨idx, r, ht, hc, htext⟩ :=
    word_path hg0 (Nat.zero_le i) hi (wordLattice_head_word genTables ctx hi hw) (lookup_reading hd.1 hw).1 hind
  exact ⟨.word i idx w (some 0) :: (r ++ [Node.eos]),
    chain_of_tiling _ (_ :: r) (fromInput_ok genTables input d ctx hd g0 hg0).1 ht,
    ⟨headEdge_some ctx w.speech, hc⟩, congrArg (w.word ++ ·) htext⟩

theorem prefix_path (input : Str) (d : Dict) (ctx : Ctx) (hd : Dict.WF d) (g0 : Graph)
    (hg0 : fromInput genTables input d ctx = some g0)
    (k : Nat) (P : Word) (hP : P ∈ lookup d.ancTrie d.anc (slice input 0 k)) (hPsp : P.speech = .affix .prefix)
    (i : Nat) (hki : k + 1 ≤ i) (hi : i < input.length) (w : Word)
    (hw : w ∈ lookup d.stdTrie d.std (slice input (k + 1) i)) (hind : w.speech.isAncillary = false)
    (x : Nat) (hconn : firstMatch2 (.affix .prefix) w.speech genTables.wordEdges = some x) :
    Offers genTables ctx g0 (P.word ++ w.word ++ input.drop (i + 1)) := by
  have hPlen : 0 + P.reading.length = k + 1 :=
    (lookup_reading hd.2 hP).1 ▸ slice_length input 0 k (Nat.zero_le k) (by omega)
  obtain ⟨⟨idxP, hP3⟩, hW⟩ := wordLattice_after_prefix ctx hP hPsp (by omega) hki hi hw
  have hP0 := (fromInput_extends hg0).2 k hP3
  obtain ⟨idx, r, ht, hc, htext⟩ := word_path hg0 hki hi hW (lookup_reading hd.1 hw).1 hind
  -- the prefix covers `[0, k]`; the word and what follows tile the rest from `k + 1`
  have htiles : Tiles g0 input.length 0 (.word k idxP P (some 0) :: .word i idx w (some 0) :: r) := by
    refine ⟨hP0, ?_, hPlen.symm, ht⟩
    show 1 ≤ P.reading.length
    omega
  have hedge : edgeScore genTables ctx (.word k idxP P (some 0)) (.word i idx w (some 0)) = some x := by
    simp only [edgeScore, hPsp]
    exact hconn
  refine ⟨.word k idxP P (some 0) :: .word i idx w (some 0) :: (r ++ [Node.eos]), ?_, ?_, ?_⟩
  · exact chain_of_tiling _ _ (fromInput_ok genTables input d ctx hd g0 hg0).1 htiles
  · exact ⟨headEdge_some ctx P.speech, ⟨x, hedge⟩, hc⟩
  · rw [List.append_assoc, ← htext]
    rfl

end Chokan.Kkc
