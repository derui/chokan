/-
Lemmas for C10.  The PEG commits to an alternative by looking at a bounded stretch of input, so once
the input read so far holds a character that no literal of the grammar contains (the "/" that
closes a speech name), the parse no longer depends on what follows: `*_ext`.  This lifts a
kernel-evaluated run of the parser on the 116 printed names, each closed by "/", to every
continuation of the input (`parseSpeech_closed`).
-/
import Chokan.Model.DicText

namespace Chokan.DicText
open Chokan.Dic Chokan.Gen.DicGrammar

theorem spanClass_eq (p : Nat → Bool) : ∀ s : Str, spanClass p s = (s.takeWhile p, s.dropWhile p)
  | [] => rfl
  | c :: t => by
    unfold spanClass
    cases h : p c <;> simp [h, spanClass_eq p t]

theorem spanClass_append (p : Nat → Bool) (xs : Str) (c : Nat) (rest : Str)
    (hx : ∀ x ∈ xs, p x = true) (hc : p c = false) : spanClass p (xs ++ c :: rest) = (xs, c :: rest) := by
  rw [spanClass_eq, List.takeWhile_append_of_pos hx, List.dropWhile_append_of_pos hx,
    List.takeWhile_cons_of_neg (by simp [hc]), List.dropWhile_cons_of_neg (by simp [hc]), List.append_nil]

theorem spanClass_fst (p : Nat → Bool) (s : Str) : ∀ c ∈ (spanClass p s).1, p c = true := by
  rw [spanClass_eq]
  exact List.all_eq_true.1 List.all_takeWhile

theorem spanClass_seg (p : Nat → Bool) (xs mid tail : Str) (hx : ∀ x ∈ xs, p x = true)
    (hm : ∀ c ∈ mid, p c = false) (hne : mid ≠ []) : spanClass p (xs ++ (mid ++ tail)) = (xs, mid ++ tail) := by
  cases mid with
  | nil => exact absurd rfl hne
  | cons c t => exact spanClass_append p xs c (t ++ tail) hx (hm c List.mem_cons_self)

theorem beq_eq_false_iff (a b : Nat) : Nat.beq a b = false ↔ a ≠ b := by
  rw [← Bool.not_eq_true, Nat.beq_eq]

theorem isNoSpace_iff (c : Nat) : isNoSpace c = true ↔ c ≠ 32 ∧ c ≠ 9 := by
  simp [isNoSpace, beq_eq_false_iff]

theorem memNat_iff (c : Nat) : ∀ l : List Nat, memNat c l = true ↔ c ∈ l
  | [] => by simp [memNat]
  | x :: t => by simp [memNat, memNat_iff c t]

theorem stripPrefix_ext (d : Nat) : ∀ (lit t rest : Str), d ∉ lit → d ∈ t →
    stripPrefix lit (t ++ rest) = (stripPrefix lit t).map (· ++ rest)
  | [], _, _, _, _ => rfl
  | _ :: _, [], _, _, ht => by cases ht
  | a :: as, b :: bs, rest, hl, ht => by
    simp only [List.cons_append, stripPrefix]
    split
    · next hab =>
      cases Nat.eq_of_beq_eq_true hab
      have hd : d ≠ a := fun h => hl (h ▸ List.mem_cons_self)
      exact stripPrefix_ext d as bs rest (fun h => hl (List.mem_cons_of_mem _ h))
        ((List.mem_cons.1 ht).resolve_left hd)
    · rfl

theorem parseLits_ext {α : Type} (d : Nat) (t rest : Str) (ht : d ∈ t) :
    ∀ l : List (Str × α), (∀ p ∈ l, d ∉ p.1) →
      parseLits l (t ++ rest) = (parseLits l t).map fun (v, r) => (v, r ++ rest)
  | [], _ => rfl
  | (lit, v) :: tl, hl => by
    simp only [parseLits, stripPrefix_ext d lit t rest (hl _ List.mem_cons_self) ht]
    cases stripPrefix lit t with
    | some r => rfl
    | none => exact parseLits_ext d t rest ht tl fun p hp => hl p (List.mem_cons_of_mem _ hp)

def literals : Alt → List Str
  | .lits l => l.map (·.1)
  | .verb sufs => sufs.map (·.1)

def Avoids (d : Nat) (alts : List Alt) (kata : List Nat) : Prop :=
  d ∉ kata ∧ ∀ a ∈ alts, ∀ lit ∈ literals a, d ∉ lit

instance (d alts kata) : Decidable (Avoids d alts kata) := by unfold Avoids; infer_instance

theorem parseAlt_ext (kata : List Nat) (d : Nat) (hk : d ∉ kata) (a : Alt) (ha : ∀ lit ∈ literals a, d ∉ lit)
    (t rest : Str) (ht : d ∈ t) :
    parseAlt kata a (t ++ rest) = (parseAlt kata a t).map fun (v, r) => (v, r ++ rest) := by
  cases a with
  | lits l => exact parseLits_ext d t rest ht l fun p hp => ha _ (List.mem_map_of_mem hp)
  | verb sufs =>
    cases t with
    | nil => cases ht
    | cons k r =>
      simp only [List.cons_append, parseAlt]
      split
      · next hkk =>
        have hd : d ≠ k := fun h => hk (h ▸ (memNat_iff k kata).1 hkk)
        rw [parseLits_ext d r rest ((List.mem_cons.1 ht).resolve_left hd) sufs
          fun p hp => ha _ (List.mem_map_of_mem hp)]
        cases parseLits sufs r <;> rfl
      · rfl

theorem parseAlts_ext (kata : List Nat) (d : Nat) (t rest : Str) (ht : d ∈ t) :
    ∀ alts : List Alt, Avoids d alts kata →
      parseAlts kata alts (t ++ rest) = (parseAlts kata alts t).map fun (v, r) => (v, r ++ rest)
  | [], _ => rfl
  | a :: tl, h => by
    simp only [parseAlts, parseAlt_ext kata d h.1 a (h.2 a List.mem_cons_self) t rest ht]
    cases parseAlt kata a t with
    | some r => rfl
    | none => exact parseAlts_ext kata d t rest ht tl ⟨h.1, fun b hb => h.2 b (List.mem_cons_of_mem _ hb)⟩

/-- `h` is what the kernel evaluates, once per printable speech (`speechChecks` in C10). -/
theorem parseSpeech_closed (alts : List Alt) (kata : List Nat) (hg : Avoids 47 alts kata) (name : Str) (sp : Speech)
    (h : parseAlts kata alts (name ++ [47]) = some (sp, [47])) (rest : Str) :
    parseSpeech alts kata (47 :: (name ++ 47 :: rest)) = some (sp, 47 :: rest) := by
  have := parseAlts_ext kata 47 (name ++ [47]) rest (by simp) alts hg
  rw [h] at this
  simpa [parseSpeech] using this

/-- "/n₁/n₂…/nₖ" (without the closing slash). -/
def printSpeechs (names : List (Speech × Str)) (vsuf : VerbClass → Str) : List Speech → Str
  | [] => []
  | sp :: t => 47 :: (printSpeech names vsuf sp ++ printSpeechs names vsuf t)

theorem parseSpeechStar_print (alts : List Alt) (kata : List Nat) (names : List (Speech × Str))
    (vsuf : VerbClass → Str) (hg : Avoids 47 alts kata) (hend : parseAlts kata alts [] = none) :
    ∀ (sps : List Speech) (fuel : Nat),
      (∀ sp ∈ sps, parseAlts kata alts (printSpeech names vsuf sp ++ [47]) = some (sp, [47])) →
      (printSpeechs names vsuf sps).length < fuel →
      parseSpeechStar alts kata fuel (printSpeechs names vsuf sps ++ [47]) = (sps, [47])
  | [], fuel, _, hf => by
    cases fuel with
    | zero => cases hf
    | succ f => simp [printSpeechs, parseSpeechStar, parseSpeech, hend]
  | sp :: t, fuel, hc, hf => by
    cases fuel with
    | zero => cases hf
    | succ f =>
      have ih := parseSpeechStar_print alts kata names vsuf hg hend t f
        (fun s hs => hc s (List.mem_cons_of_mem _ hs))
        (by simp only [printSpeechs, List.length_cons, List.length_append] at hf; omega)
      have h1 := hc sp List.mem_cons_self
      have hnext : ∃ rest, printSpeechs names vsuf t ++ [47] = 47 :: rest := by
        cases t with
        | nil => exact ⟨[], rfl⟩
        | cons s2 t2 => exact ⟨_, rfl⟩
      obtain ⟨rest, hrest⟩ := hnext
      have h2 := parseSpeech_closed alts kata hg _ sp h1 rest
      simp only [printSpeechs, List.cons_append, List.append_assoc]
      rw [hrest] at ih ⊢
      rw [parseSpeechStar, h2]
      simp only [ih]

end Chokan.DicText
