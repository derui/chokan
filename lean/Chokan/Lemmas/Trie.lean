/-
Lemmas for C04: the double-array trie model is an exact set of label paths.

A ghost map `A : Nat → Option (List Nat)` gives every used slot its label path from the root; `Inv` ties `A` to the
`base`/`check` arrays. Its parameter `B p l` is the base under which the child of `p` with label `l` is stored: the node's
base between two steps of `insert` (`Inv0`); in the middle of a `rebase` of `node`, the old base for the children not yet
moved (`cbf`, "child base function"). One iteration of `rebase` (`moveChild_inv`) moves the child `l` from slot `ob + l` to
`nb + l`: the path `A (ob + l)` goes with it, no other path changes, and `l` leaves the pending list of `cbf`. `FreeOK`: the
free list is the set of unused slots. Each step of `insert` has one statement (`…_ok`): under `Inv0` and `FreeOK` it returns
`badOracle`, or succeeds with `Inv0`, `FreeOK` and the stated growth of the set of paths (`Res.okOr`) — never `panic` or
`reject`; the `Option`-valued steps inside (`recordTransition`, `moveChildren`, `rebase`) succeed outright.
-/
import Chokan.Model.Trie

namespace Chokan.Trie

-- The model spells `contains`, `erase` and `idxOf?` out with `Nat.beq`; after these equations the library's lemmas apply.
theorem natBeq_eq (c x : Nat) : Nat.beq c x = (c == x) := by
  rw [Bool.eq_iff_iff, Nat.beq_eq, beq_iff_eq]

theorem eraseNat_eq (c : Nat) : ∀ l : List Nat, eraseNat c l = l.erase c
  | [] => rfl
  | x :: t => by
    rw [eraseNat, List.erase_cons, eraseNat_eq c t, natBeq_eq, Bool.beq_comm]

theorem memNat_eq (c : Nat) : ∀ l : List Nat, memNat c l = l.contains c
  | [] => rfl
  | x :: t => by rw [memNat, memNat_eq c t, List.contains_cons, natBeq_eq]

theorem memNat_iff (c : Nat) (l : List Nat) : memNat c l = true ↔ c ∈ l := by
  rw [memNat_eq, List.contains_iff_mem]

theorem indexOf_eq (c : Nat) : ∀ l : List Nat, indexOf c l = l.idxOf? c
  | [] => rfl
  | x :: t => by
    rw [indexOf, indexOf_eq c t, natBeq_eq, List.idxOf?_cons, Bool.beq_comm]

theorem get_eq (s : Nodes) (i : Nat) : s.get i = (s.slots[i]?).getD emptySlot := by
  simp [Nodes.get]

theorem get_of_ge (s : Nodes) (i : Nat) (h : s.size ≤ i) : s.get i = emptySlot := by
  rw [get_eq, List.getElem?_eq_none (by simpa [Nodes.size] using h)]; rfl

theorem check_of_ge (s : Nodes) (i : Nat) (h : s.size ≤ i) : s.check i = none := by
  rw [Nodes.check, get_of_ge s i h]; rfl

theorem check_lt (s : Nodes) (i p : Nat) (h : s.check i = some p) : i < s.size :=
  Nat.lt_of_not_le fun hl => by rw [check_of_ge s i hl] at h; cases h

theorem base_lt (s : Nodes) (i b : Nat) (h : s.base i = some b) : i < s.size :=
  Nat.lt_of_not_le fun hl => by rw [Nodes.base, get_of_ge s i hl] at h; cases h

theorem get_setSlot (s : Nodes) (i j : Nat) (v : Slot) :
    ({ s with slots := s.slots.set i v } : Nodes).get j = if j = i ∧ i < s.size then v else s.get j := by
  simp only [get_eq, List.getElem?_set, Nodes.size]
  by_cases hij : j = i
  · subst hij
    by_cases hl : j < s.slots.length <;> simp [hl]
  · simp [hij, Ne.symm hij]

theorem size_setSlot (s : Nodes) (i : Nat) (v : Slot) :
    ({ s with slots := s.slots.set i v } : Nodes).size = s.size := by
  simp [Nodes.size]

theorem get_expand (s : Nodes) (n i : Nat) : (s.expand n).get i = s.get i := by
  simp only [get_eq, Nodes.expand, List.getElem?_append, List.getElem?_replicate]
  split
  · rfl
  · next h => rw [List.getElem?_eq_none (Nat.le_of_not_lt h)]; split <;> rfl

theorem check_expand (s : Nodes) (n i : Nat) : (s.expand n).check i = s.check i := by
  rw [Nodes.check, get_expand]; rfl

theorem base_expand (s : Nodes) (n i : Nat) : (s.expand n).base i = s.base i := by
  rw [Nodes.base, get_expand]; rfl

theorem size_expand (s : Nodes) (n : Nat) : (s.expand n).size = s.size + n := by
  simp [Nodes.size, Nodes.expand]

theorem free_expand (s : Nodes) (n : Nat) : (s.expand n).free = s.free ++ List.range' s.size n := by
  simp only [Nodes.expand, List.range'_eq_map_range, Nat.add_comm]

/-- The free list is exactly the set of unused slots inside the array. -/
def FreeOK (s : Nodes) : Prop :=
  s.free.Nodup ∧ ∀ i, i ∈ s.free ↔ (i < s.size ∧ s.check i = none)

theorem freeOK_expand (s : Nodes) (n : Nat) (h : FreeOK s) : FreeOK (s.expand n) := by
  obtain ⟨hn, hm⟩ := h
  rw [FreeOK, free_expand, size_expand]
  refine ⟨List.nodup_append.2 ⟨hn, List.nodup_range' 1, fun a ha b hb => ?_⟩, fun i => ?_⟩
  · have := ((hm a).1 ha).1
    have := (List.mem_range'_1.1 hb).1
    omega
  · rw [List.mem_append, List.mem_range'_1, hm i, check_expand]
    rcases Nat.lt_or_ge i s.size with hl | hl
    · simp [hl, Nat.not_le_of_lt hl, Nat.lt_add_right n hl]
    · simp [check_of_ge s i hl, Nat.not_lt_of_le hl, hl]

theorem check_setCheck (s : Nodes) (i : Nat) (c : Option Nat) (j : Nat) :
    (s.setCheck i c).check j = if j = i ∧ i < s.size then c else s.check j := by
  simp only [Nodes.check, Nodes.setCheck, get_setSlot]
  split <;> rfl

theorem base_setCheck (s : Nodes) (i : Nat) (c : Option Nat) (j : Nat) :
    (s.setCheck i c).base j = s.base j := by
  simp only [Nodes.base, Nodes.setCheck, get_setSlot]
  split
  · next h => rw [h.1]
  · rfl

theorem check_setBase (s : Nodes) (i : Nat) (b : Option Nat) (j : Nat) :
    (s.setBase i b).check j = s.check j := by
  simp only [Nodes.check, Nodes.setBase, get_setSlot]
  split
  · next h => rw [h.1]
  · rfl

theorem base_setBase (s : Nodes) (i : Nat) (b : Option Nat) (j : Nat) :
    (s.setBase i b).base j = if j = i ∧ i < s.size then b else s.base j := by
  simp only [Nodes.base, Nodes.setBase, get_setSlot]
  split <;> rfl

theorem size_setBase (s : Nodes) (i : Nat) (b : Option Nat) : (s.setBase i b).size = s.size := by
  simp [Nodes.setBase, size_setSlot]

theorem size_setCheck (s : Nodes) (i : Nat) (c : Option Nat) : (s.setCheck i c).size = s.size := by
  simp [Nodes.setCheck, size_setSlot]

theorem freeOK_setBase (s : Nodes) (i : Nat) (b : Option Nat) (h : FreeOK s) : FreeOK (s.setBase i b) :=
  ⟨h.1, fun j => by rw [size_setBase, check_setBase]; exact h.2 j⟩

theorem expand_zero (s : Nodes) : s.expand 0 = s := by
  simp [Nodes.expand]

theorem expand_to (s : Nodes) (ci : Nat) :
    (if s.size ≤ ci then s.expand (ci - s.size + 1) else s) = s.expand (ci + 1 - s.size) := by
  split
  · next h => rw [Nat.sub_add_comm h]
  · next h => rw [Nat.sub_eq_zero_of_le (Nat.lt_of_not_le h), expand_zero]

theorem recordTransition_spec (s : Nodes) (idx l b : Nat) (hb : s.base idx = some b) :
    ∃ s', s.recordTransition idx l = some (s', b + l) ∧ s.size ≤ s'.size ∧ b + l < s'.size ∧
      (∀ j, s'.check j = if j = b + l then some idx else s.check j) ∧ (∀ j, s'.base j = s.base j) ∧
      (FreeOK s → FreeOK s') := by
  simp only [Nodes.recordTransition, if_pos (base_lt s idx b hb), hb, expand_to, Option.some.injEq, Prod.mk.injEq,
    and_true, exists_eq_left']
  have hn : b + l < s.size + (b + l + 1 - s.size) := by omega
  generalize b + l + 1 - s.size = n at hn ⊢
  -- the state returned, a `setCheck` on the expanded array, is all the goal speaks of
  generalize hs : Nodes.setCheck _ _ _ = s'
  have hsz : s'.size = s.size + n := by
    rw [← hs, size_setCheck]; exact size_expand _ _
  have hchk : ∀ j, s'.check j = if j = b + l then some idx else s.check j := by
    intro j
    rw [← hs, check_setCheck]
    show (if j = b + l ∧ b + l < (s.expand n).size then _ else (s.expand n).check j) = _
    rw [size_expand, check_expand]
    simp only [hn, and_true]
  have hbas : ∀ j, s'.base j = s.base j := by
    intro j
    rw [← hs, base_setCheck]
    exact base_expand s n j
  have hle : s.size ≤ s'.size := by rw [hsz]; exact Nat.le_add_right _ _
  have hlt' : b + l < s'.size := by rw [hsz]; exact hn
  refine ⟨hle, hlt', hchk, hbas, fun hf => ?_⟩
  obtain ⟨hn1, hm1⟩ := freeOK_expand s n hf
  have hfr : s'.free = (s.expand n).free.erase (b + l) := by
    rw [← hs]; exact eraseNat_eq _ _
  refine ⟨hfr ▸ hn1.erase _, fun j => ?_⟩
  rw [hfr, hn1.mem_erase_iff, hm1 j, hchk j, hsz, size_expand, check_expand]
  by_cases hj : j = b + l
  · simp [hj]
  · simp [hj]

theorem get_mapSlots (s : Nodes) (f : Slot → Slot) (hf : f emptySlot = emptySlot) (j : Nat) :
    ({ s with slots := s.slots.map f } : Nodes).get j = f (s.get j) := by
  simp only [get_eq, List.getElem?_map]
  cases s.slots[j]? with
  | none => simp [hf]
  | some v => rfl

theorem reparentSlot_fst (old idx : Nat) (sl : Slot) : (reparentSlot old idx sl).1 = sl.1 := by
  unfold reparentSlot; split <;> rfl

theorem reparentSlot_snd (old idx : Nat) (sl : Slot) :
    (reparentSlot old idx sl).2 = if sl.2 = some old then some idx else sl.2 := by
  unfold reparentSlot; split <;> rfl

/-- `hnogc`: a slot without a base has no children (for `old`, no grandchildren to re-parent); `hfreeb`:
the target slot carries no stale base.  Both follow from the invariant. -/
theorem reparent_spec (s1 : Nodes) (old idx : Nat) (hidx : idx < s1.size)
    (hnogc : s1.base old = none → ∀ i, s1.check i ≠ some old)
    (hfreeb : s1.base old = none → s1.base idx = none) :
    (s1.reparent old idx).size = s1.size ∧ (s1.reparent old idx).free = s1.free ∧
    (∀ j, (s1.reparent old idx).check j = if s1.check j = some old then some idx else s1.check j) ∧
    (∀ j, (s1.reparent old idx).base j = if j = idx then s1.base old else s1.base j) := by
  cases hob : s1.base old with
  | none =>
    -- `reparent` leaves the state alone; the two hypotheses make the formulas agree with that
    rw [show s1.reparent old idx = s1 by simp [Nodes.reparent, hob]]
    refine ⟨rfl, rfl, fun j => (if_neg (hnogc hob j)).symm, fun j => ?_⟩
    by_cases hj : j = idx
    · rw [if_pos hj, hj, hfreeb hob]
    · rw [if_neg hj]
  | some bo =>
    have hget : ∀ j, (s1.reparent old idx).get j = reparentSlot old idx ((s1.setBase idx (some bo)).get j) := by
      intro j; simp only [Nodes.reparent, hob]
      exact get_mapSlots _ _ (by simp [reparentSlot, emptySlot]) j
    refine ⟨by simp [Nodes.reparent, hob, Nodes.size, Nodes.setBase], by simp [Nodes.reparent, hob, Nodes.setBase],
      fun j => ?_, fun j => ?_⟩
    · rw [Nodes.check, hget, reparentSlot_snd]
      simp only [show ((s1.setBase idx (some bo)).get j).2 = s1.check j from check_setBase s1 _ _ j]
    · rw [Nodes.base, hget, reparentSlot_fst]
      change (s1.setBase idx (some bo)).base j = _
      rw [base_setBase]; simp only [hidx, and_true]

theorem release_spec (s2 : Nodes) (old : Nat) (hold : old < s2.size) :
    (s2.release old).size = s2.size ∧
    (∀ j, (s2.release old).check j = if j = old then none else s2.check j) ∧
    (∀ j, (s2.release old).base j = if j = old then none else s2.base j) ∧
    (s2.free.Nodup → (s2.release old).free.Nodup) ∧
    (∀ j, j ∈ (s2.release old).free ↔ (j ∈ s2.free ∨ j = old)) := by
  have hget : ∀ j, (s2.release old).get j = if j = old then emptySlot else s2.get j := fun j =>
    (get_setSlot s2 old j emptySlot).trans (by simp only [hold, and_true])
  refine ⟨size_setSlot s2 old emptySlot, fun j => ?_, fun j => ?_, fun hn => ?_, fun j => ?_⟩
  · rw [Nodes.check, hget]; split <;> rfl
  · rw [Nodes.base, hget]; split <;> rfl
  · simp only [Nodes.release]
    split
    · exact hn
    · next hmem =>
      refine List.nodup_append.2 ⟨hn, List.pairwise_singleton _ _, fun a ha b hb hab => hmem ?_⟩
      rw [memNat_iff, ← List.mem_singleton.1 hb, ← hab]
      exact ha
  · simp only [Nodes.release]
    split
    · next hmem =>
      refine ⟨Or.inl, ?_⟩
      rintro (h | rfl)
      · exact h
      · exact (memNat_iff _ _).1 hmem
    · simp

/-- `hnogc`, `hfreeb` as in `reparent_spec`. -/
theorem moveChild_spec (s : Nodes) (node ob l : Nat) (s' : Nodes)
    (h : s.moveChild node ob l = some s')
    (hnogc : s.base (ob + l) = none → ∀ i, s.check i ≠ some (ob + l))
    (hfreeb : ∀ nb, s.base node = some nb → s.base (nb + l) = none) :
    ∃ nb, s.base node = some nb ∧ s.size ≤ s'.size ∧
      (∀ j, s'.check j = if j = ob + l then none else if j = nb + l then some node
                         else if s.check j = some (ob + l) then some (nb + l) else s.check j) ∧
      (∀ j, s'.base j = if j = ob + l then none else if j = nb + l then s.base (ob + l) else s.base j) ∧
      (FreeOK s → FreeOK s') := by
  cases hnb : s.base node with
  | none => simp [Nodes.moveChild, Nodes.recordTransition, hnb] at h
  | some nb =>
    obtain ⟨s1, hr, hsz1, hidxlt, hc1, hb1, hf1⟩ := recordTransition_spec s node l nb hnb
    simp only [Nodes.moveChild, hr, Option.ite_none_right_eq_some, Option.ite_none_left_eq_some,
      Option.some.injEq] at h
    obtain ⟨hold, hne, h⟩ := h
    have hne' : (some node : Option Nat) ≠ some (ob + l) := fun hh => hne (Option.some.inj hh)
    have hnogc1 : s1.base (ob + l) = none → ∀ i, s1.check i ≠ some (ob + l) := by
      intro hb i
      rw [hc1]
      split
      · exact hne'
      · exact hnogc (hb1 _ ▸ hb) i
    obtain ⟨hsz2, hfr2, hc2, hb2⟩ := reparent_spec s1 (ob + l) (nb + l) hidxlt hnogc1
      fun _ => hb1 _ ▸ hfreeb nb hnb
    obtain ⟨hszf, hcf, hbf, hnf, hmf⟩ := release_spec (s1.reparent (ob + l) (nb + l)) (ob + l) (hsz2 ▸ hold)
    rw [h] at hszf hcf hbf hnf hmf
    have hsz : s.size ≤ s'.size := by rw [hszf, hsz2]; exact hsz1
    refine ⟨nb, rfl, hsz, fun j => ?_, fun j => by rw [hbf, hb2, hb1, hb1], fun hfo => ?_⟩
    · rw [hcf, hc2, hc1]
      by_cases hj : j = nb + l
      · simp [hj, hne']
      · simp [hj]
    · obtain ⟨hn1, hm1⟩ := hf1 hfo
      refine ⟨hnf (hfr2 ▸ hn1), fun j => ?_⟩
      rw [hmf, hfr2, hm1 j, hszf, hsz2, hcf, hc2]
      by_cases hj : j = ob + l
      · simp [hj, hold]
      · by_cases hq : s1.check j = some (ob + l)
        · simp [hj, hq]
        · simp [hj, hq]

/-- Base under which the child `(p, l)` is stored while the children `pend` of `node` still sit under
the old base `ob` (in the middle of a `rebase`). -/
def cbf (s : Nodes) (node ob : Nat) (pend : List Nat) (p l : Nat) : Option Nat :=
  if p = node ∧ l ∈ pend then some ob else s.base p

theorem cbf_nil (s : Nodes) (node ob : Nat) : cbf s node ob [] = fun p _ => s.base p := by
  funext p l; simp [cbf]

theorem cbf_of_ne {s : Nodes} {node ob : Nat} {pend : List Nat} {p : Nat} (h : p ≠ node) (l : Nat) :
    cbf s node ob pend p l = s.base p :=
  if_neg fun hh => h hh.1

/-- `A i` is the label path from the root to the used slot `i`. -/
structure Inv (nl : Nat) (s : Nodes) (A : Nat → Option (List Nat)) (B : Nat → Nat → Option Nat) : Prop where
  root_check : s.check 0 = some 0
  root_path : A 0 = some []
  used : ∀ i, A i = none ↔ s.check i = none
  empty : ∀ i, s.check i = none → s.base i = none
  child : ∀ i P, i ≠ 0 → A i = some P → ∃ p l b Pp, s.check i = some p ∧ A p = some Pp ∧
    P = Pp ++ [l] ∧ B p l = some b ∧ i = b + l ∧ 1 ≤ l ∧ l ≤ nl

abbrev Inv0 (nl : Nat) (s : Nodes) (A : Nat → Option (List Nat)) : Prop := Inv nl s A (fun p _ => s.base p)

theorem Inv.ne_free {nl s A B} (h : Inv nl s A B) {i j : Nat} {P : List Nat} (hA : A i = some P)
    (hj : s.check j = none) : i ≠ j := by
  rintro rfl
  rw [(h.used i).2 hj] at hA
  cases hA

theorem Inv.lt_size {nl s A B} (h : Inv nl s A B) (i : Nat) (P : List Nat) (hA : A i = some P) : i < s.size := by
  cases hc : s.check i with
  | none => exact absurd rfl (h.ne_free hA hc)
  | some p => exact check_lt s i p hc

/-- The `child` clause read from `check i` instead of from `A i`. -/
theorem Inv.edge {nl s A B} (h : Inv nl s A B) (i p : Nat) (hi : i ≠ 0) (hc : s.check i = some p) :
    ∃ l b Pp, A p = some Pp ∧ A i = some (Pp ++ [l]) ∧ B p l = some b ∧ i = b + l ∧ 1 ≤ l ∧ l ≤ nl := by
  cases hP : A i with
  | none => rw [(h.used i).1 hP] at hc; cases hc
  | some P =>
    obtain ⟨p', l, b, Pp, hcp, hAp, hPe, hB, hie, hl⟩ := h.child i P hi hP
    rw [hc] at hcp; cases hcp
    exact ⟨l, b, Pp, hAp, congrArg some hPe, hB, hie, hl⟩

/-- Hence the `assert!` in the loop of `rebase` (`moveChild`) never fires. -/
theorem Inv.parent_ne {nl s A B} (h : Inv nl s A B) {i p : Nat} (hi : i ≠ 0) (hc : s.check i = some p) :
    p ≠ i := by
  rintro rfl
  obtain ⟨l, _, Pp, hAp, hAi, _⟩ := h.edge p p hi hc
  rw [hAp] at hAi
  simpa using congrArg List.length (Option.some.inj hAi)

theorem moveChild_inv (nl : Nat) (s : Nodes) (node ob l : Nat) (rest : List Nat) (s' : Nodes)
    (A : Nat → Option (List Nat)) (P : List Nat)
    (hI : Inv nl s A (cbf s node ob (l :: rest)))
    (hP : A node = some P)
    (hold : s.check (ob + l) = some node) (holdA : A (ob + l) = some (P ++ [l]))
    (hl1 : 1 ≤ l) (hlr : l ∉ rest)
    (hfree : ∀ nb, s.base node = some nb → s.check (nb + l) = none)
    (h : s.moveChild node ob l = some s') :
    ∃ nb, s.base node = some nb ∧ s'.base node = some nb ∧ s.size ≤ s'.size ∧
      node ≠ ob + l ∧ node ≠ nb + l ∧
      Inv nl s' (fun i => if i = ob + l then none else if i = nb + l then A (ob + l) else A i)
        (cbf s' node ob rest) ∧
      (∀ j, s'.check j = if j = ob + l then none else if j = nb + l then some node
                         else if s.check j = some (ob + l) then some (nb + l) else s.check j) ∧
      (FreeOK s → FreeOK s') := by
  have h0 : ∀ b, b + l ≠ 0 := fun b => Nat.ne_of_gt (Nat.add_pos_right b hl1)
  have hold0 := h0 ob
  have hnodeold : node ≠ ob + l := hI.parent_ne hold0 hold
  have hnogc : s.base (ob + l) = none → ∀ i, s.check i ≠ some (ob + l) := by
    intro hb i hc
    by_cases hi : i = 0
    · rw [hi, hI.root_check] at hc
      exact hold0 (Option.some.inj hc).symm
    · obtain ⟨l', b, _, _, _, hB, _⟩ := hI.edge i _ hi hc
      rw [cbf_of_ne hnodeold.symm, hb] at hB
      cases hB
  obtain ⟨nb, hnb, hsz, hc', hb', hfo⟩ := moveChild_spec s node ob l s' h hnogc
    fun nb hnb => hI.empty _ (hfree nb hnb)
  have hidxfree : s.check (nb + l) = none := hfree nb hnb
  have hidxold : nb + l ≠ ob + l := (hI.ne_free holdA hidxfree).symm
  have hnodeidx : node ≠ nb + l := hI.ne_free hP hidxfree
  have hidx0 := h0 nb
  have hbnode : s'.base node = some nb := by
    rw [hb', if_neg hnodeold, if_neg hnodeidx, hnb]
  refine ⟨nb, hnb, hbnode, hsz, hnodeold, hnodeidx,
    { root_check := ?_, root_path := ?_, used := fun i => ?_, empty := fun i hci => ?_,
      child := fun i Pi hi0 hAi => ?_ }, hc', hfo⟩
  · rw [hc', if_neg hold0.symm, if_neg hidx0.symm, hI.root_check, if_neg fun hh => hold0 (Option.some.inj hh).symm]
  · rw [if_neg hold0.symm, if_neg hidx0.symm, hI.root_path]
  · rw [hc']
    by_cases hi : i = ob + l
    · rw [if_pos hi, if_pos hi]
      exact iff_of_true rfl rfl
    · rw [if_neg hi, if_neg hi]
      by_cases hi2 : i = nb + l
      · rw [if_pos hi2, if_pos hi2, holdA]
        exact iff_of_false nofun nofun
      · rw [if_neg hi2, if_neg hi2]
        by_cases hq : s.check i = some (ob + l)
        · rw [if_pos hq, (hI.used i), hq]
          exact iff_of_false nofun nofun
        · rw [if_neg hq]
          exact hI.used i
  · rw [hc'] at hci
    rw [hb']
    by_cases hi : i = ob + l
    · exact if_pos hi
    · rw [if_neg hi] at hci ⊢
      by_cases hi2 : i = nb + l
      · rw [if_pos hi2] at hci
        cases hci
      · rw [if_neg hi2] at hci ⊢
        by_cases hq : s.check i = some (ob + l)
        · rw [if_pos hq] at hci
          cases hci
        · rw [if_neg hq] at hci
          exact hI.empty i hci
  · by_cases hi : i = ob + l
    · rw [if_pos hi] at hAi
      cases hAi
    rw [if_neg hi] at hAi
    by_cases hi2 : i = nb + l
    · -- the moved child; the bounds of `l` are those in the old child's own record
      rw [if_pos hi2, holdA] at hAi
      obtain ⟨_, l2, _, _, _, _, hPe, _, _, _, hl2⟩ := hI.child (ob + l) _ hold0 holdA
      cases List.append_inj_right' hPe rfl
      have hPi : Pi = P ++ [l] := (Option.some.inj hAi).symm
      refine ⟨node, l, nb, P, ?_, ?_, hPi, ?_, hi2, hl1, hl2⟩
      · rw [hc', if_neg hi, if_pos hi2]
      · rw [if_neg hnodeold, if_neg hnodeidx, hP]
      · rw [cbf, if_neg fun hh => hlr hh.2, hbnode]
    rw [if_neg hi2] at hAi
    obtain ⟨p, l', b, Pp, hcp, hAp, hPe, hB, hie, hla, hlb⟩ := hI.child i Pi hi0 hAi
    by_cases hp : p = ob + l
    · -- a grandchild: re-parented to the moved child
      subst hp
      refine ⟨nb + l, l', b, Pp, by rw [hc', if_neg hi, if_neg hi2, if_pos hcp], ?_, hPe, ?_, hie, hla, hlb⟩
      · rw [if_neg hidxold, if_pos rfl, hAp]
      · rw [cbf_of_ne hnodeold.symm] at hB
        rw [cbf_of_ne hnodeidx.symm, hb', if_neg hidxold, if_pos rfl, hB]
    · have hpidx : p ≠ nb + l := hI.ne_free hAp hidxfree
      refine ⟨p, l', b, Pp, ?_, ?_, hPe, ?_, hie, hla, hlb⟩
      · rw [hc', if_neg hi, if_neg hi2, hcp, if_neg fun hh => hp (Option.some.inj hh)]
      · rw [if_neg hp, if_neg hpidx, hAp]
      · rw [cbf] at hB ⊢
        rw [hb', if_neg hp, if_neg hpidx]
        by_cases hq : p = node ∧ l' ∈ l :: rest
        · rw [if_pos hq] at hB
          -- `l' = l` would make `i` the old slot
          rcases List.mem_cons.1 hq.2 with hll | hll
          · exact absurd (by rw [hie, ← Option.some.inj hB, hll]) hi
          · rw [if_pos ⟨hq.1, hll⟩, hB]
        · rw [if_neg hq] at hB
          rw [if_neg fun hh => hq ⟨hh.1, List.mem_cons_of_mem _ hh.2⟩, hB]

theorem moveChild_isSome (s : Nodes) (node ob l nb : Nat) (hb : s.base node = some nb)
    (hold : ob + l < s.size) (hne : node ≠ ob + l) : ∃ s', s.moveChild node ob l = some s' := by
  obtain ⟨s1, hr, hsz, _⟩ := recordTransition_spec s node l nb hb
  simp only [Nodes.moveChild, hr, if_pos (Nat.lt_of_lt_of_le hold hsz), if_neg hne]
  exact ⟨_, rfl⟩

/-- The loop of `rebase` claims no slot but its targets `nb + l`: that lets the caller record the new transition under `nb`
afterwards. -/
theorem moveChildren_ok (nl node ob nb : Nat) (P : List Nat) :
    ∀ (pend : List Nat) (s : Nodes) (A : Nat → Option (List Nat)),
    Inv nl s A (cbf s node ob pend) → FreeOK s → A node = some P → s.base node = some nb →
    pend.Nodup →
    (∀ l ∈ pend, 1 ≤ l ∧ s.check (ob + l) = some node ∧ A (ob + l) = some (P ++ [l]) ∧
      s.check (nb + l) = none) →
    ∃ s' A', s.moveChildren node ob pend = some s' ∧
      Inv0 nl s' A' ∧ FreeOK s' ∧ A' node = some P ∧ s'.base node = some nb ∧
      (∀ j, s.check j = none → (∀ l ∈ pend, j ≠ nb + l) → s'.check j = none) ∧
      (∀ M, (∃ i, A' i = some M) ↔ (∃ i, A i = some M)) := by
  intro pend
  induction pend with
  | nil =>
    intro s A hI hF hP hb _ _
    rw [cbf_nil] at hI
    exact ⟨s, A, rfl, hI, hF, hP, hb, fun _ h _ => h, fun M => Iff.rfl⟩
  | cons l rest ih =>
    intro s A hI hF hP hb hnd hpend
    obtain ⟨hlr, hnd'⟩ := List.nodup_cons.1 hnd
    obtain ⟨hl1, hold, holdA, hidxfree⟩ := hpend l List.mem_cons_self
    obtain ⟨s1, hm⟩ := moveChild_isSome s node ob l nb hb (check_lt s _ _ hold)
      (hI.parent_ne (Nat.ne_of_gt (Nat.add_pos_right ob hl1)) hold)
    have hfree : ∀ nb', s.base node = some nb' → s.check (nb' + l) = none := by
      intro nb' hnb'
      cases hb.symm.trans hnb'
      exact hidxfree
    obtain ⟨nb', hnb', hb1, _, hnodeold, hnodeidx, hI1, hc1, hF1⟩ :=
      moveChild_inv nl s node ob l rest s1 A P hI hP hold holdA hl1 hlr hfree hm
    cases hb.symm.trans hnb'
    have hidxold : nb + l ≠ ob + l := (hI.ne_free holdA hidxfree).symm
    have hkeep : ∀ j, s.check j = none → j ≠ nb + l → s1.check j = none := by
      intro j hj hne
      simp [hc1, hne, hj]
    obtain ⟨s', A', hs', hI', hF', hP', hb', hfree', hpaths⟩ :=
      ih s1 _ hI1 (hF1 hF) (by rw [if_neg hnodeold, if_neg hnodeidx, hP]) hb1 hnd' <| by
        -- the children still pending are untouched by the move of `l`
        intro l2 hl2
        obtain ⟨hpos2, hc2, hA2, hfree2⟩ := hpend l2 (List.mem_cons_of_mem _ hl2)
        have hne : ∀ b, b + l2 ≠ b + l := fun b hh => hlr (Nat.add_left_cancel hh ▸ hl2)
        have hj2 : ob + l2 ≠ nb + l := hI.ne_free hA2 hidxfree
        refine ⟨hpos2, ?_, ?_, hkeep _ hfree2 (hne nb)⟩
        · rw [hc1, if_neg (hne ob), if_neg hj2, hc2, if_neg fun hh => hnodeold (Option.some.inj hh)]
        · rw [if_neg (hne ob), if_neg hj2, hA2]
    have hrun : s.moveChildren node ob (l :: rest) = some s' := by
      simp only [Nodes.moveChildren, hm, Option.bind_some, hs']
    refine ⟨s', A', hrun, hI', hF', hP', hb', fun j hj hne => ?_, fun M => (hpaths M).trans ⟨?_, ?_⟩⟩
    · -- a free slot that is no target stays free in the move of `l`, then in the moves of `rest`
      have hj1 : s1.check j = none := hkeep j hj (hne l List.mem_cons_self)
      exact hfree' j hj1 fun l2 hl2 => hne l2 (List.mem_cons_of_mem _ hl2)
    -- the slot `ob + l` has been renamed `nb + l`
    · rintro ⟨i, hi⟩
      by_cases h1 : i = ob + l
      · rw [if_pos h1] at hi; cases hi
      · rw [if_neg h1] at hi
        by_cases h2 : i = nb + l
        · rw [if_pos h2] at hi; exact ⟨_, hi⟩
        · rw [if_neg h2] at hi; exact ⟨_, hi⟩
    · rintro ⟨i, hi⟩
      by_cases h1 : i = ob + l
      · exact ⟨nb + l, by rw [if_neg hidxold, if_pos rfl, ← h1, hi]⟩
      · have h2 : i ≠ nb + l := hI.ne_free hi hidxfree
        exact ⟨i, by rw [if_neg h1, if_neg h2, hi]⟩

theorem child_path {nl s A} (hI : Inv0 nl s A) (p b l : Nat) (P : List Nat)
    (hb : s.base p = some b) (hc : s.check (b + l) = some p) (hl : 1 ≤ l) (hP : A p = some P) :
    A (b + l) = some (P ++ [l]) := by
  obtain ⟨l', b', Pp, hAp, hAi, hB, hie, _⟩ := hI.edge (b + l) p (Nat.ne_of_gt (Nat.add_pos_right b hl)) hc
  rw [hP] at hAp; cases hAp
  rw [show s.base p = some b' from hB] at hb; cases hb
  rw [hAi, Nat.add_left_cancel hie]

theorem mem_findLabelsOf {s : Nodes} {idx b : Nat} (hb : s.base idx = some b) (nl l : Nat) :
    l ∈ s.findLabelsOf idx nl ↔ 1 ≤ l ∧ l ≤ nl ∧ s.check (b + l) = some idx := by
  simp only [Nodes.findLabelsOf, hb, List.mem_filterMap, List.mem_range, Option.ite_none_right_eq_some,
    Option.some.injEq]
  constructor
  · rintro ⟨k, hk, hc, rfl⟩
    exact ⟨by omega, by omega, hc⟩
  · rintro ⟨h1, h2, h3⟩
    exact ⟨l - 1, by omega, by rw [Nat.sub_add_cancel h1]; exact ⟨h3, rfl⟩⟩

theorem nodup_findLabelsOf (s : Nodes) (idx nl : Nat) : (s.findLabelsOf idx nl).Nodup := by
  unfold Nodes.findLabelsOf
  cases s.base idx with
  | none => exact List.Pairwise.nil
  | some b =>
    refine List.Pairwise.filterMap _ (fun a a' hne x hx y hy => ?_) List.nodup_range
    simp only [Option.ite_none_right_eq_some, Option.some.injEq] at hx hy
    omega

/-- Used with no children pending (the slot had no base: `insertBase`) and with all of them (the start of `rebase`). -/
theorem setBase_cbf_inv (nl : Nat) (s : Nodes) (i b ob : Nat) (pend : List Nat) (A : Nat → Option (List Nat))
    (P : List Nat) (hI : Inv0 nl s A) (hP : A i = some P)
    (hpend : ∀ b' l, 1 ≤ l → l ≤ nl → s.base i = some b' → s.check (b' + l) = some i → b' = ob ∧ l ∈ pend) :
    Inv nl (s.setBase i (some b)) A (cbf (s.setBase i (some b)) i ob pend) where
  root_check := by rw [check_setBase]; exact hI.root_check
  root_path := hI.root_path
  used j := by rw [check_setBase]; exact hI.used j
  empty j hj := by
    rw [check_setBase] at hj
    have hji : j ≠ i := (hI.ne_free hP hj).symm
    rw [base_setBase, if_neg fun h => hji h.1]
    exact hI.empty j hj
  child j Pj hj0 hAj := by
    obtain ⟨p, l, b', Pp, hcp, hAp, hPe, hB, hje, hl1, hl2⟩ := hI.child j Pj hj0 hAj
    refine ⟨p, l, b', Pp, (check_setBase s i _ j).trans hcp, hAp, hPe, ?_, hje, hl1, hl2⟩
    rw [cbf]
    by_cases hp : p = i
    · subst hp
      obtain ⟨rfl, hl⟩ := hpend b' l hl1 hl2 hB (hje ▸ hcp)
      rw [if_pos ⟨rfl, hl⟩]
    · rw [if_neg fun h => hp h.1, base_setBase, if_neg fun h => hp h.1]
      exact hB

theorem rebase_ok (nl : Nat) (s : Nodes) (node ob nb : Nat)
    (A : Nat → Option (List Nat)) (P : List Nat)
    (hI : Inv0 nl s A) (hF : FreeOK s) (hP : A node = some P) (hob : s.base node = some ob)
    (hfree : ∀ l ∈ s.findLabelsOf node nl, s.check (nb + l) = none) :
    ∃ s' A', s.rebase node nb nl = some s' ∧ Inv0 nl s' A' ∧ FreeOK s' ∧ A' node = some P ∧
      s'.base node = some nb ∧
      (∀ j, s.check j = none → (∀ l ∈ s.findLabelsOf node nl, j ≠ nb + l) → s'.check j = none) ∧
      (∀ M, (∃ i, A' i = some M) ↔ (∃ i, A i = some M)) := by
  have hlt : node < s.size := base_lt s node ob hob
  have hmem := mem_findLabelsOf hob nl
  unfold Nodes.rebase
  rw [if_pos hlt, hob]
  -- with the new base set, all children of `node` are pending under the old one
  have hI0 := setBase_cbf_inv nl s node nb ob (s.findLabelsOf node nl) A P hI hP fun b' l hl1 hl2 hb' hc => by
    rw [hob] at hb'; cases hb'
    exact ⟨rfl, (hmem l).2 ⟨hl1, hl2, hc⟩⟩
  have hbase : (s.setBase node (some nb)).base node = some nb := by rw [base_setBase, if_pos ⟨rfl, hlt⟩]
  have hmove := moveChildren_ok nl node ob nb P _ _ A hI0 (freeOK_setBase s node _ hF) hP hbase
    (nodup_findLabelsOf s node nl)
  simp only [check_setBase] at hmove
  refine hmove fun l hl => ?_
  obtain ⟨h1, _, hc⟩ := (hmem l).1 hl
  exact ⟨h1, hc, child_path hI node ob l P hob hc h1 hP, hfree l hl⟩

def Res.okOr {α : Type} (r : Res α) (Q : α → Prop) : Prop :=
  match r with
  | .ok a => Q a
  | .badOracle => True
  | .reject => False
  | .panic => False

@[elab_as_elim] theorem Res.okOr.elim {α : Type} {Q : α → Prop} {C : Res α → Prop} {r : Res α}
    (h : r.okOr Q) (ok : ∀ a, Q a → C (.ok a)) (bad : C .badOracle) : C r := by
  cases r with
  | ok a => exact ok a h
  | badOracle => exact bad
  | reject => exact False.elim h
  | panic => exact False.elim h

theorem xcheck_ok (s : Nodes) (labels : List Nat) (c : Nat) (hne : labels ≠ []) (hF : FreeOK s) :
    (s.xcheck labels c).okOr fun t => ∀ l ∈ labels, s.check (t + l) = none := by
  unfold Nodes.xcheck
  simp only [List.isEmpty_iff, hne, if_false]
  split
  · next hadm =>
    intro l hl
    simp only [Nodes.admissible, List.all_eq_true] at hadm
    exact ((hF.2 _).1 ((memNat_iff _ _).1 (hadm l hl))).2
  · split
    · exact fun l _ => check_of_ge s _ (Nat.le_add_right _ _)
    · trivial

theorem insertBase_ok (nl : Nat) (s : Nodes) (cur label : Nat) (oracle : List Nat)
    (A : Nat → Option (List Nat)) (P : List Nat) (hI : Inv0 nl s A) (hF : FreeOK s) (hP : A cur = some P) :
    (insertBase s cur label oracle).okOr fun (s1, b, _) => Inv0 nl s1 A ∧ FreeOK s1 ∧ s1.base cur = some b := by
  unfold insertBase
  cases hb : s.base cur with
  | some b0 => exact ⟨hI, hF, hb⟩
  | none =>
    cases oracle with
    | nil => trivial
    | cons c rest =>
      simp only
      refine (xcheck_ok s [label] c (by simp) hF).elim (fun b' _ => ?_) trivial
      refine ⟨?_, freeOK_setBase _ _ _ hF, by rw [base_setBase, if_pos ⟨rfl, hI.lt_size cur P hP⟩]⟩
      have := setBase_cbf_inv nl s cur b' 0 [] A P hI hP (fun _ _ _ _ hb' => by rw [hb] at hb'; cases hb')
      rwa [cbf_nil] at this

def StepPost (nl : Nat) (A : Nat → Option (List Nat)) (Q : List Nat) (s' : Nodes) (cur' : Nat) : Prop :=
  ∃ A', Inv0 nl s' A' ∧ FreeOK s' ∧ A' cur' = some Q ∧
    ∀ M, (∃ i, A' i = some M) ↔ ((∃ i, A i = some M) ∨ M = Q)

theorem recordTransition_ok (nl : Nat) (s : Nodes) (idx l b : Nat) (A : Nat → Option (List Nat)) (P : List Nat)
    (hI : Inv0 nl s A) (hF : FreeOK s) (hP : A idx = some P) (hl : 1 ≤ l ∧ l ≤ nl)
    (hb : s.base idx = some b) (hfree : s.check (b + l) = none) :
    ∃ s' t, s.recordTransition idx l = some (s', t) ∧ StepPost nl A (P ++ [l]) s' t := by
  obtain ⟨s', h, _, _, hc', hbs', hF'⟩ := recordTransition_spec s idx l b hb
  have hci0 : b + l ≠ 0 := Nat.ne_of_gt (Nat.add_pos_right b hl.1)
  generalize hci : b + l = ci at hfree h hc' hci0
  have hne : idx ≠ ci := hI.ne_free hP hfree
  refine ⟨s', ci, h, fun i => if i = ci then some (P ++ [l]) else A i,
    { root_check := ?_, root_path := ?_, used := fun i => ?_, empty := fun i hc => ?_,
      child := fun i Pi hi0 hAi => ?_ }, hF' hF, if_pos rfl, fun M => ⟨?_, ?_⟩⟩
  · rw [hc', if_neg hci0.symm, hI.root_check]
  · rw [if_neg hci0.symm, hI.root_path]
  · rw [hc']
    by_cases hi : i = ci
    · rw [if_pos hi, if_pos hi]
      exact iff_of_false nofun nofun
    · rw [if_neg hi, if_neg hi]
      exact hI.used i
  · rw [hc'] at hc
    by_cases hi : i = ci
    · rw [if_pos hi] at hc
      cases hc
    · rw [if_neg hi] at hc
      rw [hbs', hI.empty i hc]
  · by_cases hi : i = ci
    · rw [if_pos hi] at hAi
      have hPi : Pi = P ++ [l] := (Option.some.inj hAi).symm
      refine ⟨idx, l, b, P, ?_, ?_, hPi, (hbs' idx).trans hb, hi.trans hci.symm, hl.1, hl.2⟩
      · rw [hc', if_pos hi]
      · rw [if_neg hne, hP]
    · rw [if_neg hi] at hAi
      obtain ⟨p, l', b', Pp, hcp, hAp, hPe, hB, hie, hla, hlb⟩ := hI.child i Pi hi0 hAi
      have hpci : p ≠ ci := hI.ne_free hAp hfree
      refine ⟨p, l', b', Pp, ?_, ?_, hPe, (hbs' p).trans hB, hie, hla, hlb⟩
      · rw [hc', if_neg hi, hcp]
      · rw [if_neg hpci, hAp]
  · rintro ⟨i, hi⟩
    by_cases h : i = ci
    · exact Or.inr (Option.some.inj ((if_pos h).symm.trans hi)).symm
    · exact Or.inl ⟨i, (if_neg h).symm.trans hi⟩
  · rintro (⟨i, hi⟩ | h)
    · exact ⟨i, (if_neg (hI.ne_free hi hfree)).trans hi⟩
    · exact ⟨ci, (if_pos rfl).trans (congrArg some h.symm)⟩

theorem insertTail_ok (nl : Nat) (s1 : Nodes) (cur label b : Nat) (o1 : List Nat)
    (A : Nat → Option (List Nat)) (P : List Nat)
    (hI : Inv0 nl s1 A) (hF : FreeOK s1) (hP : A cur = some P) (hb : s1.base cur = some b)
    (hl : 1 ≤ label ∧ label ≤ nl) :
    (insertTail nl s1 cur label b o1).okOr fun (s', cur', _) => StepPost nl A (P ++ [label]) s' cur' := by
  unfold insertTail
  cases hc : s1.check (b + label) with
  | none =>
    obtain ⟨s2, t, hr, hpost⟩ := recordTransition_ok nl s1 cur label b A P hI hF hP hl hb hc
    simp only [hr]; exact hpost
  | some n =>
    simp only
    by_cases hn : n = cur
    · subst hn
      have hpath := child_path hI n b label P hb hc hl.1 hP
      rw [if_pos rfl]
      refine ⟨A, hI, hF, hpath, fun M => ⟨Or.inl, ?_⟩⟩
      rintro (h | rfl)
      · exact h
      · exact ⟨b + label, hpath⟩
    · rw [if_neg hn]
      cases o1 with
      | nil => trivial
      | cons c rest =>
        simp only
        refine (xcheck_ok s1 (s1.findLabelsOf cur nl ++ [label]) c (by simp) hF).elim (fun nb hx => ?_) trivial
        obtain ⟨s2, A2, hrb, hI2, hF2, hP2, hb2, hkeep, hpaths2⟩ :=
          rebase_ok nl s1 cur b nb A P hI hF hP hb fun l hl' => hx l (List.mem_append_left _ hl')
        -- the conflicting slot belongs to another node, so `label` is not among the children moved
        have hfree2 : s2.check (nb + label) = none := by
          refine hkeep _ (hx label (by simp)) fun l hl' hh => ?_
          obtain ⟨_, _, hc'⟩ := (mem_findLabelsOf hb nl l).1 hl'
          rw [← Nat.add_left_cancel hh, hc] at hc'
          exact hn (Option.some.inj hc')
        obtain ⟨s3, t, hr, A3, hI3, hF3, hP3, hpaths3⟩ :=
          recordTransition_ok nl s2 cur label nb A2 P hI2 hF2 hP2 hl hb2 hfree2
        simp only [hrb, hr]
        exact ⟨A3, hI3, hF3, hP3, fun M => by rw [hpaths3 M, hpaths2 M]⟩

theorem insertStep_ok (nl : Nat) (s : Nodes) (cur label : Nat) (oracle : List Nat)
    (A : Nat → Option (List Nat)) (P : List Nat)
    (hI : Inv0 nl s A) (hF : FreeOK s) (hP : A cur = some P) (hl : 1 ≤ label ∧ label ≤ nl) :
    (insertStep nl s cur label oracle).okOr fun (s', cur', _) => StepPost nl A (P ++ [label]) s' cur' := by
  unfold insertStep
  rw [if_pos (hI.lt_size cur P hP)]
  refine (insertBase_ok nl s cur label oracle A P hI hF hP).elim (fun r h => ?_) trivial
  obtain ⟨s1, b, o1⟩ := r
  obtain ⟨hI1, hF1, hb⟩ := h
  exact insertTail_ok nl s1 cur label b o1 A P hI1 hF1 hP hb hl

theorem prefixes_cons (P : List Nat) (l : Nat) (ls M : List Nat) :
    (∃ k, 1 ≤ k ∧ k ≤ (l :: ls).length ∧ M = P ++ (l :: ls).take k) ↔
      (M = P ++ [l] ∨ ∃ k, 1 ≤ k ∧ k ≤ ls.length ∧ M = (P ++ [l]) ++ ls.take k) := by
  constructor
  · rintro ⟨k, h1, h2, rfl⟩
    match k, h1, h2 with
    | 1, _, _ => exact Or.inl rfl
    | k + 2, _, h2 =>
      refine Or.inr ⟨k + 1, Nat.le_add_left 1 k, Nat.le_of_succ_le_succ h2, ?_⟩
      rw [List.take_succ_cons, List.append_assoc]; rfl
  · rintro (rfl | ⟨k, h1, h2, rfl⟩)
    · exact ⟨1, Nat.le_refl 1, Nat.le_add_left 1 _, rfl⟩
    · refine ⟨k + 1, Nat.le_add_left 1 k, Nat.succ_le_succ h2, ?_⟩
      rw [List.take_succ_cons, List.append_assoc]; rfl

theorem insertLoop_ok (nl : Nat) : ∀ (ls : List Nat) (s : Nodes) (cur : Nat) (oracle : List Nat)
    (A : Nat → Option (List Nat)) (P : List Nat),
    Inv0 nl s A → FreeOK s → A cur = some P → (∀ l ∈ ls, 1 ≤ l ∧ l ≤ nl) →
    (insertLoop nl s cur ls oracle).okOr fun (s', _) => ∃ A', Inv0 nl s' A' ∧ FreeOK s' ∧
      (∀ M, (∃ i, A' i = some M) ↔
        ((∃ i, A i = some M) ∨ ∃ k, 1 ≤ k ∧ k ≤ ls.length ∧ M = P ++ ls.take k))
  | [], s, cur, oracle, A, P, hI, hF, _, _ => by
    refine ⟨A, hI, hF, fun M => ⟨Or.inl, ?_⟩⟩
    rintro (h | ⟨k, h1, h2, _⟩)
    · exact h
    · exact absurd (Nat.le_trans h1 h2) (Nat.not_succ_le_zero 0)
  | l :: ls, s, cur, oracle, A, P, hI, hF, hP, hls => by
    unfold insertLoop
    refine (insertStep_ok nl s cur l oracle A P hI hF hP (hls l List.mem_cons_self)).elim
      (fun r h => ?_) trivial
    obtain ⟨s1, cur1, o1⟩ := r
    obtain ⟨A1, hI1, hF1, hP1, hpaths1⟩ := h
    simp only
    refine (insertLoop_ok nl ls s1 cur1 o1 A1 (P ++ [l]) hI1 hF1 hP1
      (fun x hx => hls x (List.mem_cons_of_mem _ hx))).elim ?_ trivial
    rintro ⟨s', _⟩ ⟨A', hI', hF', hpaths'⟩
    exact ⟨A', hI', hF', fun M => by rw [hpaths' M, hpaths1 M, prefixes_cons, or_assoc]⟩

theorem walk_append (s : Nodes) : ∀ (M1 M2 : List Nat) (p : Nat),
    s.walk p (M1 ++ M2) = (s.walk p M1).bind fun q => s.walk q M2
  | [], M2, p => by simp [Nodes.walk]
  | l :: M1, M2, p => by
    simp only [List.cons_append, Nodes.walk]
    cases s.child p l with
    | none => rfl
    | some q => exact walk_append s M1 M2 q

theorem child_some (s : Nodes) (p l q : Nat) (h : s.child p l = some q) :
    ∃ b, s.base p = some b ∧ q = b + l ∧ s.check (b + l) = some p := by
  unfold Nodes.child at h
  cases hb : s.base p with
  | none => simp [hb] at h
  | some b =>
    simp only [hb, Option.ite_none_right_eq_some, Option.some.injEq] at h
    exact ⟨b, rfl, h.2.symm, h.1⟩

theorem walk_path {nl s A} (hI : Inv0 nl s A) : ∀ (M : List Nat) (p q : Nat) (P : List Nat),
    (∀ l ∈ M, 1 ≤ l) → A p = some P → s.walk p M = some q → A q = some (P ++ M)
  | [], p, q, P, _, hP, h => by
    cases h
    rw [List.append_nil, hP]
  | l :: M, p, q, P, hM, hP, h => by
    rw [Nodes.walk] at h
    cases hc : s.child p l with
    | none => rw [hc] at h; cases h
    | some q1 =>
      rw [hc] at h
      obtain ⟨b, hb, rfl, hck⟩ := child_some s p l q1 hc
      rw [List.append_cons]
      exact walk_path hI M _ q (P ++ [l]) (fun x hx => hM x (List.mem_cons_of_mem _ hx))
        (child_path hI p b l P hb hck (hM l List.mem_cons_self) hP) h

theorem path_walk {nl s A} (hI : Inv0 nl s A) (M : List Nat) (q : Nat) (hA : A q = some M) :
    s.walk 0 M = some q := by
  by_cases hq : q = 0
  · subst hq
    rw [hI.root_path] at hA
    cases hA
    rfl
  · obtain ⟨p, l, b, Pp, hcp, hAp, hM, hB, hie, _⟩ := hI.child q M hq hA
    have hB' : s.base p = some b := hB
    rw [hM, walk_append, path_walk hI Pp p hAp]
    simp only [Option.bind_some, Nodes.walk, Nodes.child, hB', ← hie, hcp, if_true]
termination_by M.length
decreasing_by simp [hM]

theorem walk_isSome_iff {nl s A} (hI : Inv0 nl s A) (M : List Nat) (hM : ∀ l ∈ M, 1 ≤ l) :
    (s.walk 0 M).isSome = true ↔ ∃ i, A i = some M := by
  rw [Option.isSome_iff_exists]
  exact ⟨fun ⟨q, hw⟩ => ⟨q, walk_path hI M 0 q [] hM hI.root_path hw⟩, fun ⟨q, hq⟩ => ⟨q, path_walk hI M q hq⟩⟩

theorem keyLabels_cons (alpha : List Nat) (c : Nat) (t : List Nat) :
    keyLabels alpha (c :: t) = (alpha.idxOf? c).bind fun i => (keyLabels alpha t).map ((i + 1) :: ·) := by
  rw [keyLabels, indexOf_eq]
  cases alpha.idxOf? c <;> cases keyLabels alpha t <;> rfl

theorem keyLabels_eq_none (alpha : List Nat) : ∀ key : List Nat, keyLabels alpha key = none ↔ ∃ c ∈ key, c ∉ alpha
  | [] => ⟨nofun, nofun⟩
  | c :: t => by
    simp only [List.mem_cons, exists_eq_or_imp]
    rw [keyLabels_cons, ← keyLabels_eq_none alpha t, ← List.idxOf?_eq_none_iff]
    cases alpha.idxOf? c <;> simp

/-- A left inverse of `keyLabels`: each label names its character. -/
theorem keyLabels_spec (alpha : List Nat) : ∀ (key r : List Nat), keyLabels alpha key = some r →
    (∀ l ∈ r, 1 ≤ l ∧ l ≤ alpha.length) ∧ r.map (fun l => alpha[l - 1]?) = key.map some
  | [], r, h => by cases h; simp
  | c :: t, r, h => by
    rw [keyLabels_cons, Option.bind_eq_some_iff] at h
    obtain ⟨i, hi, h⟩ := h
    obtain ⟨r', hr, rfl⟩ := Option.map_eq_some_iff.1 h
    obtain ⟨hb, hm⟩ := keyLabels_spec alpha t r' hr
    obtain ⟨hlt, he, _⟩ := List.idxOf?_eq_some_iff.1 hi
    refine ⟨fun l hl => ?_, by simp [hm, ← he]⟩
    rcases List.mem_cons.1 hl with rfl | hl
    · omega
    · exact hb l hl

theorem keyLabels_inj (alpha : List Nat) (k1 k2 r : List Nat)
    (h1 : keyLabels alpha k1 = some r) (h2 : keyLabels alpha k2 = some r) : k1 = k2 :=
  (List.map_inj_right fun _ _ => Option.some.inj).1
    ((keyLabels_spec alpha k1 r h1).2.symm.trans (keyLabels_spec alpha k2 r h2).2)

theorem inv_init (nl : Nat) :
    Inv0 nl Nodes.init (fun i => if i = 0 then some [] else none) ∧ FreeOK Nodes.init := by
  refine ⟨{ root_check := rfl, root_path := rfl, used := fun i => ?_, empty := fun i hc => ?_,
            child := fun i P hi hA => ?_ }, List.nodup_nil, fun i => ?_⟩
  · cases i with
    | zero => exact iff_of_false nofun nofun
    | succ i => exact iff_of_true rfl rfl
  · cases i with
    | zero => cases hc
    | succ i => rfl
  · rw [if_neg hi] at hA
    cases hA
  · refine iff_of_false nofun fun ⟨hlt, hc⟩ => ?_
    cases Nat.lt_one_iff.1 hlt
    cases hc

end Chokan.Trie
