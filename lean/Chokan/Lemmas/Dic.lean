/-
Specification data of C12 (conjugation), authored here and read as part of that property: gojūon rows,
euphonic variants, core forms.  Then lemmas on the conjugation and guess tables, and on byte lengths
and `sliceBytes` (C12; C18 through `takeBytes_eq_sliceBytes`).
-/
import Chokan.Model.Dic
import Chokan.Gen.Dic

namespace Chokan.Dic

/-- Gojūon rows keyed by the katakana row letter: the five grades a/i/u/e/o, each with its
accepted spellings (historical and modern for the ヤ and ワ rows). -/
def gradeTable : List (Nat × List (List Nat)) := [
  (0x30A2, [[0x3042], [0x3044], [0x3046], [0x3048], [0x304A]]),               -- ア: あいうえお
  (0x30AB, [[0x304B], [0x304D], [0x304F], [0x3051], [0x3053]]),               -- カ
  (0x30AC, [[0x304C], [0x304E], [0x3050], [0x3052], [0x3054]]),               -- ガ
  (0x30B5, [[0x3055], [0x3057], [0x3059], [0x305B], [0x305D]]),               -- サ
  (0x30B6, [[0x3056], [0x3058], [0x305A], [0x305C], [0x305E]]),               -- ザ
  (0x30BF, [[0x305F], [0x3061], [0x3064], [0x3066], [0x3068]]),               -- タ
  (0x30C0, [[0x3060], [0x3062], [0x3065], [0x3067], [0x3069]]),               -- ダ
  (0x30CA, [[0x306A], [0x306B], [0x306C], [0x306D], [0x306E]]),               -- ナ
  (0x30CF, [[0x306F], [0x3072], [0x3075], [0x3078], [0x307B]]),               -- ハ
  (0x30D0, [[0x3070], [0x3073], [0x3076], [0x3079], [0x307C]]),               -- バ
  (0x30DE, [[0x307E], [0x307F], [0x3080], [0x3081], [0x3082]]),               -- マ
  (0x30E4, [[0x3084], [0x3044], [0x3086], [0x3048], [0x3088]]),               -- ヤ: や い ゆ え よ
  (0x30E9, [[0x3089], [0x308A], [0x308B], [0x308C], [0x308D]]),               -- ラ
  (0x30EF, [[0x308F], [0x3044, 0x3090], [0x3046], [0x3048, 0x3091], [0x304A, 0x3092]])  -- ワ: わ い/ゐ う え/ゑ お/を
]

/-- Euphonic (音便) okurigana heads: っ ん い. -/
def euphonic : List Nat := [0x3063, 0x3093, 0x3044]

def memNat (c : Nat) : List Nat → Bool
  | [] => false
  | x :: t => Nat.beq c x || memNat c t

def grades (row : Str) : Option (List (List Nat)) :=
  match row with
  | [r] => (gradeTable.find? fun p => Nat.beq p.1 r).map (·.2)
  | _ => none

/-- All kana of a row. -/
def rowKana (row : Str) : List Nat := ((grades row).getD []).flatten

/-- Every branch of an arm (the okurigana lists it can select). -/
def Arm.branches : Arm → List (List Str)
  | .fixed o => [o]
  | .byteLen1 a b => [a, b]
  | .lastCharIs _ a b => [a, b]
  | .kahen o => [o]
  | .unknown => []

def hasOkuri (o : List Str) (s : Str) : Bool := o.any (beqStr s)

/-- `o` contains a one-kana okurigana of grade `g` (0=a … 4=o) of the row. -/
def hasGrade (row : Str) (o : List Str) (g : Nat) : Bool :=
  match grades row with
  | some gs => (gs.getD g []).any fun k => hasOkuri o [k]
  | none => false

/-- Core forms per conjugation class (C12): what one okurigana list must contain. -/
def coreOk (cls : VerbClass) (row : Str) (o : List Str) : Bool :=
  match cls with
  | .godan => [0, 1, 2, 3, 4].all (hasGrade row o)
  | .yodan => [0, 1, 2, 3].all (hasGrade row o)
  | .kamiIchidan => hasGrade row o 1 || hasOkuri o []   -- one-kana stems carry the grade kana in the stem
  | .simoIchidan => hasGrade row o 3 || hasOkuri o []
  | .kamiNidan => hasGrade row o 1 && hasGrade row o 2
  | .simoNidan => hasGrade row o 3 && hasGrade row o 2
  | .hen =>
    match row with
    | [0x30AB] => [[0x3053], [0x304D], [0x304F, 0x308B], [0x304F, 0x308C], [0x3053, 0x3044]].all (hasOkuri o) -- こ き くる くれ こい
    | _ => [0, 1, 2, 3].all (hasGrade row o)

def headInRow (row : Str) (ok : Str) : Bool :=
  match ok with
  | [] => true
  | c :: _ => memNat c (rowKana row) || memNat c euphonic

def rowCheck (t : ConjTable) : Bool :=
  t.all fun ((_, row), arm) => arm.branches.all fun o => o.all (headInRow row)

/-- The euphonic (音便) heads a verb of this class and row has: イ音便 for カ/ガ行五段, 促音便 for タ/ラ/ワ行五段, 撥音便 for
ナ/バ/マ行五段; no other class or row has any. -/
def euphonicOf (cls : VerbClass) (row : Str) : List Nat :=
  match cls, row with
  | .godan, [0x30AB] => [0x3044]           -- カ: い
  | .godan, [0x30AC] => [0x3044]           -- ガ: い
  | .godan, [0x30BF] => [0x3063]           -- タ: っ
  | .godan, [0x30E9] => [0x3063]           -- ラ: っ
  | .godan, [0x30EF] => [0x3063]           -- ワ: っ
  | .godan, [0x30CA] => [0x3093]           -- ナ: ん
  | .godan, [0x30D0] => [0x3093]           -- バ: ん
  | .godan, [0x30DE] => [0x3093]           -- マ: ん
  | _, _ => []

def headIn (row : Str) (extra : List Nat) (ok : Str) : Bool :=
  match ok with
  | [] => true
  | c :: _ => memNat c (rowKana row) || memNat c extra

/-- every okurigana head is in the verb's own row or is one of **its own** euphonic variants; the only arm that looks at
the stem is カ行五段, which after a stem reading in い takes っ instead of い (行く) -/
def rowCheckStrict (t : ConjTable) : Bool :=
  t.all fun ((cls, row), arm) =>
    match arm with
    | .lastCharIs c a b =>
      cls == .godan && row == [0x30AB] && c == 0x3044 &&
      a.all (headIn row [0x3063]) && b.all (headIn row (euphonicOf cls row))
    | arm => arm.branches.all fun o => o.all (headIn row (euphonicOf cls row))

def coreCheck (t : ConjTable) : Bool :=
  t.all fun ((cls, row), arm) => !arm.branches.isEmpty && arm.branches.all (coreOk cls row)

/-- An arm whose evaluation cannot panic for any stem / reading. -/
def Arm.total : Arm → Bool
  | .fixed _ => true
  | .byteLen1 _ _ => true
  | .lastCharIs _ _ _ => true
  | _ => false

/-- The branches an arm can select for a reading that is not exactly one byte long (every kana
reading: kana are 3 bytes in UTF-8). -/
def Arm.multiByteBranches : Arm → List (List Str)
  | .byteLen1 _ b => [b]
  | a => a.branches

def guessCheck (ct : ConjTable) (gt : GuessTable) : Bool :=
  gt.all fun (ch, cls, row) =>
    match lookupArm cls row ct with
    | some arm => arm.total && arm.multiByteBranches.all fun o => hasOkuri o [ch]
    | none => false

theorem beqStr_iff : ∀ (a b : Str), beqStr a b = true ↔ a = b
  | [], [] => by simp [beqStr]
  | [], _ :: _ => by simp [beqStr]
  | _ :: _, [] => by simp [beqStr]
  | x :: xs, y :: ys => by simp [beqStr, beqStr_iff xs ys]

theorem lookupArm_mem : ∀ (ct : ConjTable) cls row arm, lookupArm cls row ct = some arm →
    ((cls, row), arm) ∈ ct
  | [], _, _, _, h => by simp [lookupArm] at h
  | ((c, r), a) :: t, cls, row, arm, h => by
    unfold lookupArm at h
    split at h
    · next hc =>
      cases h
      cases hc.1
      rw [(beqStr_iff _ _).1 hc.2]
      exact List.mem_cons_self
    · exact List.mem_cons_of_mem _ (lookupArm_mem t cls row arm h)

theorem guessForm_mem (ch : Nat) (cls : VerbClass) (row : Str) : ∀ gt : GuessTable,
    guessForm ch gt = some (cls, row) → (ch, cls, row) ∈ gt
  | [], h => by cases h
  | (c, cl, r) :: t, h => by
    unfold guessForm at h
    split at h
    · next hc =>
      cases h
      cases Nat.eq_of_beq_eq_true hc
      exact List.mem_cons_self
    · exact List.mem_cons_of_mem _ (guessForm_mem ch cls row t h)

theorem Arm.forms_of_total (a : Arm) (h : a.total = true) (stem rd : Str) : ∃ fs, a.forms stem rd = some fs := by
  cases a <;> first | exact ⟨_, rfl⟩ | cases h

theorem utf8Len_pos (c : Nat) : 0 < utf8Len c := by
  unfold utf8Len
  repeat' split
  all_goals decide

theorem utf8LenStr_append : ∀ a b : Str, utf8LenStr (a ++ b) = utf8LenStr a + utf8LenStr b
  | [], b => (Nat.zero_add _).symm
  | c :: a, b => by rw [List.cons_append, utf8LenStr, utf8LenStr, utf8LenStr_append a b, Nat.add_assoc]

theorem utf8LenStr_pos : ∀ a : Str, a ≠ [] → 0 < utf8LenStr a
  | [], h => absurd rfl h
  | c :: _, _ => Nat.add_pos_left (utf8Len_pos c) _

theorem sliceBytes_cons (c : Nat) (t : Str) {n : Nat} (h : 0 < n) :
    sliceBytes (c :: t) n = if utf8Len c ≤ n then (sliceBytes t (n - utf8Len c)).map (c :: ·) else none := by
  cases n with
  | zero => cases h
  | succ n => rfl

theorem sliceBytes_prefix : ∀ a b : Str, sliceBytes (a ++ b) (utf8LenStr a) = some a
  | [], b => by cases b <;> rfl
  | c :: a, b => by
    rw [List.cons_append, utf8LenStr, sliceBytes_cons c _ (Nat.add_pos_left (utf8Len_pos c) _),
      if_pos (Nat.le_add_right _ _), Nat.add_sub_cancel_left, sliceBytes_prefix a b]
    rfl

theorem guess_prefix (gt : GuessTable) (w : Str) : (guess gt w).2 <+: w := by
  unfold guess
  simp only
  split
  · next r hr =>
    split at hr
    · split at hr
      · obtain ⟨p, -, rfl⟩ := Option.map_eq_some_iff.1 hr
        exact List.take_prefix _ _
      · cases hr
    · cases hr
  · split
    · exact List.take_prefix _ _
    · split
      · exact List.take_prefix _ _
      · exact List.prefix_refl _

/-- `new_guessed` cuts the reading by bytes; when word and reading end in the cut the guesser removes, the slice
falls on the character boundary before it (`sliceBytes_prefix`): no panic, and the same cut comes off both. -/
theorem newGuessed_cut (gt : GuessTable) (g rd cut : Str) (hg : (guess gt (g ++ cut)).2 = g) :
    newGuessed gt (rd ++ cut) (g ++ cut) = some ⟨g, rd, (guess gt (g ++ cut)).1⟩ := by
  unfold newGuessed
  rw [show guess gt (g ++ cut) = ((guess gt (g ++ cut)).1, g) from Prod.ext rfl hg]
  simp only [utf8LenStr_append, Nat.add_sub_cancel_left]
  split
  · rw [if_neg (by omega), Nat.add_sub_cancel, sliceBytes_prefix]; rfl
  · next h0 =>
    have : cut = [] := by
      cases cut with
      | nil => rfl
      | cons c t => exact absurd (utf8LenStr_pos (c :: t) (by simp)) h0
    simp [this]

end Chokan.Dic
