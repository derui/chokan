/-
The session store under interleaving (Model/Conc, `DSt` / `dstep`): the ledger invariant of every schedule and the
fine-grained form of C15 — a confirmation whose `pop_session` runs after the conversion has answered finds the
session, and finds it once. What is said here about one thread's place in its path (`AheadAt`) and about replacing one
thread's local (`tokOf_set`, `exists_set`, `ahead_set`) also serves the model with data (Lemmas/FineSess).
-/
import Chokan.Lemmas.Conc
import Chokan.Lemmas.Ledger

namespace Chokan.Conc
open Chokan.Gen.Server

theorem headEv_eq_some {s : St} {i : Nat} {e : Ev} :
    headEv s i = some e ↔ ∃ t r, s.threads[i]? = some t ∧ enabled s t = true ∧ t.rest = e :: r := by
  unfold headEv
  cases s.threads[i]? with
  | none => simp
  | some t => cases enabled s t <;> simp [List.head?_eq_some_iff]

theorem step_length (s : St) (ik : Nat × Nat) : (step s ik).threads.length = s.threads.length := by
  rcases step_cases s ik with h | ⟨_, _, _, h⟩ <;> rw [h]
  exact List.length_set

theorem firstIdx_cons (a e : Ev) (r : List Ev) :
    firstIdx a (e :: r) = if e = a then some 0 else (firstIdx a r).map (· + 1) := by
  unfold firstIdx
  by_cases h : e = a
  · simp [List.findIdx_cons, h]
  · have : (e == a) = false := by simpa using h
    by_cases hlt : List.findIdx (fun x => x == a) r < r.length <;> simp [List.findIdx_cons, h, this, hlt]

theorem occursBefore_cons (a b e : Ev) (r : List Ev) :
    occursBefore a b (e :: r) = if e = a then a != b else if e = b then false else occursBefore a b r := by
  unfold occursBefore
  rw [firstIdx_cons, firstIdx_cons]
  by_cases ha : e = a
  · subst ha
    by_cases hb : e = b
    · simp [hb]
    · cases firstIdx b r <;> simp [hb]
  · by_cases hb : e = b
    · subst hb
      cases firstIdx a r <;> simp [ha]
    · cases firstIdx a r <;> cases firstIdx b r <;> simp [ha, hb]

def Ahead (p : List Ev) : Prop := occursBefore (.act .addSession) .respond p = true ∧ .respond ∈ p

theorem Ahead.tail {e : Ev} {r : List Ev} (h : Ahead (e :: r)) : e = .act .addSession ∨ Ahead r := by
  obtain ⟨h1, h2⟩ := h
  rw [occursBefore_cons] at h1
  by_cases ha : e = .act .addSession
  · exact .inl ha
  · rw [if_neg ha] at h1
    split at h1
    · cases h1
    · next hb => exact .inr ⟨h1, (List.mem_cons.1 h2).resolve_left (Ne.symm hb)⟩

/-- `tok`: what request `i` has been issued (the session it stored, or its id); until then `add_session` and after it
the answer are still ahead -/
abbrev AheadAt {α : Type} (s : St) (i : Nat) (tok : Option α) : Prop :=
  ∃ t, s.threads[i]? = some t ∧ t.body = none ∧ (tok = none → Ahead t.rest)

theorem ahead_step {α : Type} {s : St} (ik : Nat × Nat) {i : Nat} {tok tok' : Option α} (h : AheadAt s i tok)
    (hmono : tok' = none → tok = none)
    (hadd : i = ik.1 → headEv s i = some (.act .addSession) → tok' ≠ none) : AheadAt (step s ik) i tok' := by
  obtain ⟨t, hi, hb, hah⟩ := h
  have hkeep : tok' = none → Ahead t.rest := fun hn => hah (hmono hn)
  rcases step_cases s ik with h' | ⟨t0, h0, he, h'⟩ <;> rw [h']
  · exact ⟨t, hi, hb, hkeep⟩
  · by_cases hik : i = ik.1
    · subst hik
      rw [hi] at h0; cases h0
      refine ⟨_, List.getElem?_set_self (List.getElem?_eq_some_iff.1 hi).1, ?_⟩
      cases hr : t.rest with
      | nil => rw [stepThread_nil _ _ _ hr, hb]; exact ⟨hb, hkeep⟩
      | cons e r =>
        rw [stepThread_cons _ _ _ hr]
        refine ⟨hb, fun hn => ?_⟩
        have hah' : Ahead (e :: r) := hr ▸ hkeep hn
        -- the consumed event was not `add_session`, or the thread has its token
        refine hah'.tail.resolve_left fun he' => ?_
        subst he'
        exact hadd rfl (headEv_eq_some.2 ⟨t, r, hi, he, hr⟩) hn
    · exact ⟨t, by rw [List.getElem?_set_ne (Ne.symm hik)]; exact hi, hb, hkeep⟩

theorem token_of_answered {α : Type} {s : St} {c : Nat} {tok : Option α} (h : AheadAt s c tok)
    (hans : answered s c = true) : ∃ a, tok = some a := by
  obtain ⟨t, ht, _, hah⟩ := h
  cases hs : tok with
  | none =>
    have := (hah hs).2
    simp [answered, ht, this] at hans
  | some a => exact ⟨a, rfl⟩

section
variable {α β : Type} {ls : List α} {i0 : Nat} {l l2 : α} {g : α → Option β}

def tokOf (g : α → Option β) (ls : List α) (i : Nat) : Option β := ls[i]?.bind g

theorem tokOf_none (h : ∀ a ∈ ls, g a = none) (i : Nat) : tokOf g ls i = none := by
  unfold tokOf
  cases hl : ls[i]? with
  | none => rfl
  | some a => exact h a (List.mem_of_getElem? hl)

theorem tokOf_set (hl : ls[i0]? = some l) (i : Nat) :
    tokOf g (ls.set i0 l2) i = if i = i0 then g l2 else tokOf g ls i := by
  unfold tokOf
  rw [List.getElem?_set]
  by_cases hi : i = i0
  · subst hi; simp [(List.getElem?_eq_some_iff.1 hl).1]
  · simp [hi, Ne.symm hi]

theorem tokOf_set_same (hl : ls[i0]? = some l) (hs : g l2 = g l) (i : Nat) : tokOf g (ls.set i0 l2) i = tokOf g ls i := by
  rw [tokOf_set hl]
  split
  · next h => subst h; simp [tokOf, hl, hs]
  · rfl

theorem exists_set {P : α → Prop} (hl : ls[i0]? = some l) (hP : P l → P l2) {u : Nat}
    (h : ∃ lu, ls[u]? = some lu ∧ P lu) : ∃ lu, (ls.set i0 l2)[u]? = some lu ∧ P lu := by
  obtain ⟨lu, hu, hp⟩ := h
  by_cases hui : u = i0
  · subst hui
    rw [hl] at hu; cases hu
    exact ⟨l2, List.getElem?_set_self (List.getElem?_eq_some_iff.1 hl).1, hP hp⟩
  · exact ⟨lu, by rw [List.getElem?_set_ne (Ne.symm hui)]; exact hu, hp⟩

theorem modify_eq_set (f : α → α) (hl : ls[i0]? = some l) : ls.modify i0 f = ls.set i0 (f l) := by
  rw [@List.modify_eq_set _ ⟨l⟩, hl, Option.getD_some]

theorem ahead_set {s : St} (ik : Nat × Nat) {i : Nat} (hl : ls[ik.1]? = some l) (h : AheadAt s i (tokOf g ls i))
    (hmono : g l2 = none → g l = none)
    (hadd : i = ik.1 → headEv s i = some (.act .addSession) → g l2 ≠ none) :
    AheadAt (step s ik) i (tokOf g (ls.set ik.1 l2) i) := by
  refine ahead_step ik h ?_ ?_ <;> rw [tokOf_set hl]
  · split
    · next hi => rw [hi, tokOf, hl]; exact hmono
    · exact id
  · intro hi he
    rw [if_pos hi]
    exact hadd hi he
end

/-- a confirmation aimed at conversion thread `i` has popped -/
def dgone (ls : List Local) (i : Nat) (_ : Nat) : Prop :=
  ∃ (u : Nat) (lu : Local), ls[u]? = some lu ∧ lu.target = some i ∧ lu.found ≠ none

/-- `conv i`: thread `i` is a conversion request (a path of a converting handler). -/
structure SInv (conv : Nat → Prop) (d : DSt) : Prop where
  len : d.locals.length = d.st.threads.length
  ledger : Ledger id (tokOf (·.sid) d.locals) d.sess (dgone d.locals) d.next
  ahead : ∀ i, conv i → AheadAt d.st i (tokOf (·.sid) d.locals i)

theorem dgone_set {ls : List Local} {i0 : Nat} {l : Local} (hl : ls[i0]? = some l) (l2 : Local)
    (hT : l2.target = l.target) (hF : l.found ≠ none → l2.found ≠ none) {i k : Nat} (h : dgone ls i k) :
    dgone (ls.set i0 l2) i k := by
  obtain ⟨u, hu⟩ := h
  exact ⟨u, exists_set hl (fun ⟨ht, hf⟩ => ⟨hT.trans ht, hF hf⟩) hu⟩

theorem wanted_eq (d : DSt) (u : Nat) :
    wanted d u = (d.locals[u]?.bind (·.target)).bind (tokOf (·.sid) d.locals) := by
  unfold wanted tokOf
  cases d.locals[u]? with
  | none => rfl
  | some l =>
    cases ht : l.target with
    | none => simp [ht]
    | some c => cases hc : d.locals[c]? <;> simp [ht, hc]

theorem SInv_set {conv : Nat → Prop} {d : DSt} (h : SInv conv d) (ik : Nat × Nat) {l l2 : Local} {sess : List Nat}
    {next : Nat} (hl : d.locals[ik.1]? = some l)
    (hled : Ledger id (tokOf (·.sid) (d.locals.set ik.1 l2)) sess (dgone (d.locals.set ik.1 l2)) next)
    (hmono : l2.sid = none → l.sid = none)
    (hadd : headEv d.st ik.1 = some (.act .addSession) → l2.sid ≠ none) :
    SInv conv ⟨step d.st ik, d.locals.set ik.1 l2, sess, next⟩ :=
  ⟨by rw [List.length_set, step_length, h.len], hled, fun i hc =>
    ahead_set ik hl (h.ahead i hc) hmono fun hi he => hadd (hi ▸ he)⟩

theorem SInv_dstep {conv : Nat → Prop} {d : DSt} (h : SInv conv d) (ik : Nat × Nat) : SInv conv (dstep d ik) := by
  have hloc : ∀ {e}, headEv d.st ik.1 = some e → ∃ l, d.locals[ik.1]? = some l := fun he => by
    obtain ⟨t, _, ht, _⟩ := headEv_eq_some.1 he
    exact ⟨_, List.getElem?_eq_getElem (h.len ▸ (List.getElem?_eq_some_iff.1 ht).1)⟩
  unfold dstep
  split
  · next hhe =>  -- add_session: the next id is issued
    obtain ⟨l, hl⟩ := hloc hhe
    rw [modify_eq_set _ hl]
    refine SInv_set h ik hl (h.ledger.issue ik.1 d.next rfl (tokOf_set hl) ?_) nofun (fun _ => nofun)
    intro i k _ hg
    exact dgone_set hl { l with sid := some d.next } rfl id hg
  · next hhe =>
    obtain ⟨l, hl⟩ := hloc hhe
    have hne : headEv d.st ik.1 ≠ some (.act .addSession) := by rw [hhe]; nofun
    split
    · next k hw =>  -- pop_session of the id `k` the target was answered with
      rw [modify_eq_set _ hl]
      refine SInv_set h ik hl (h.ledger.pop k (tokOf_set_same hl rfl) ?_) id (fun he => absurd he hne)
      rintro i k' hi (hg | rfl)
      · exact dgone_set hl { l with found := some (d.sess.contains k) } rfl (fun _ => nofun) hg
      · -- the popped id belongs to this confirmation's target, which is thread `i`
        rw [wanted_eq, hl] at hw
        obtain ⟨c, htc, hck⟩ := Option.bind_eq_some_iff.1 hw
        obtain rfl := h.ledger.inj c i _ _ hck hi rfl
        exact ⟨ik.1, _, List.getElem?_set_self (List.getElem?_eq_some_iff.1 hl).1, htc, nofun⟩
    · -- pop_session with no id to look for: nothing is found
      rw [modify_eq_set _ hl]
      refine SInv_set h ik hl (h.ledger.frame (tokOf_set_same hl rfl) ?_) id (fun he => absurd he hne)
      intro i k _ hg
      exact dgone_set hl { l with found := some false } rfl (fun _ => nofun) hg
  · next hadd _ =>  -- any other event: the session store and the locals stay
    refine ⟨(step_length _ _).symm ▸ h.len, h.ledger, fun i hc => ahead_step ik (h.ahead i hc) id ?_⟩
    intro hi he
    exact absurd (hi ▸ he) hadd

theorem SInv_drun {conv : Nat → Prop} (sched : List (Nat × Nat)) {d : DSt} (h : SInv conv d) :
    SInv conv (drun d sched) :=
  List.foldlRecOn (motive := SInv conv) sched dstep h fun _ h ik _ => SInv_dstep h ik

theorem SInv_dinit {unb : Chan → Bool} {capOf : Chan → Nat} {reqs : List (List Ev × Option Nat)}
    {tasks : List (List (List Ev))} {paths : List (List Ev)} (hpaths : ∀ p ∈ paths, Ahead p) :
    SInv (fun i => ∃ r, reqs[i]? = some r ∧ r.1 ∈ paths) (dinit unb capOf reqs tasks) := by
  have hsid : ∀ l ∈ (dinit unb capOf reqs tasks).locals, l.sid = none := by
    simp only [dinit, List.forall_mem_append, List.forall_mem_map, implies_true, and_self]
  refine ⟨by simp [dinit, initSt], Ledger.init (tokOf_none hsid) (fun _ hx => nomatch hx), ?_⟩
  rintro i ⟨r, hr, hrp⟩
  exact ⟨_, initSt_get (by rw [List.getElem?_map, hr]; rfl), rfl, fun _ => hpaths r.1 hrp⟩

/-- `C15_conc_confirmation_finds_session` is this at the state a schedule reaches. `hfirst`: no confirmation aimed at `c`
has popped before. -/
theorem pop_finds {conv : Nat → Prop} {d : DSt} (h : SInv conv d) (c u k : Nat) (lu : Local)
    (hc : conv c) (hans : answered d.st c = true)
    (hu : d.locals[u]? = some lu) (htu : lu.target = some c)
    (hhead : headEv d.st u = some (.act .popSession))
    (hfirst : ∀ (u' : Nat) (lu' : Local), d.locals[u']? = some lu' → lu'.target = some c → lu'.found = none) :
    ∃ lu' sid, (dstep d (u, k)).locals[u]? = some lu' ∧ lu'.found = some true ∧
      d.locals[c]?.bind (·.sid) = some sid ∧ sid ∈ d.sess ∧ sid ∉ (dstep d (u, k)).sess := by
  obtain ⟨sid, hs⟩ := token_of_answered (h.ahead c hc) hans
  have hw : wanted d u = some sid := by simp only [wanted_eq, hu, htu, hs, Option.bind_some]
  have hin : sid ∈ d.sess := by
    rcases h.ledger.kept c sid hs with hin | ⟨u', lu', hu', htu', hfu'⟩
    · exact List.mem_of_find?_eq_some hin
    · exact absurd (hfirst u' lu' hu' htu') hfu'
  -- `dstep` takes the `pop_session` branch with `wanted d u = some sid`
  refine ⟨{ lu with found := some (d.sess.contains sid) }, sid, ?_, by simp [hin], hs, hin, ?_⟩
  · simp [dstep, hhead, hw, hu]
  · simp [dstep, hhead, hw, List.mem_filter]

end Chokan.Conc
