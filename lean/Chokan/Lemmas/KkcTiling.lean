/-
Chains and tilings (C01, C03).  `Tiles g n s l`: the nodes of `l` are nodes of the lattice `g` that stand one after
the other from character `s` to the end of an input of `n` characters.  Over a lattice satisfying the node invariant
a `previous`-linked chain from `bos` to `eos` is such a tiling (`tiles_of_chain`), and every such tiling is
a chain (`chain_of_tiling`, on any lattice).  What C01 says of a chain is then read off the tiling
(`chain_as_tiling`).
-/
import Chokan.Lemmas.KkcSearch
import Chokan.Lemmas.KkcForward

namespace Chokan.Kkc
open Chokan.Dic

def nodeReading : Node → Str
  | .word _ _ w _ => w.reading
  | .virt _ _ s _ => s
  | _ => []

def readings (l : List Node) : Str := (l.map nodeReading).flatten

def isWord : Node → Bool
  | .word _ _ _ _ => true
  | _ => false

def Tiles (g : Graph) (n : Nat) : Nat → List Node → Prop
  | s, [] => s = n
  | s, v :: r => v ∈ g.getD v.endAt [] ∧ 1 ≤ v.len ∧ v.endAt + 1 = s + v.len ∧ Tiles g n (v.endAt + 1) r

theorem Tiles.mem {g : Graph} {n : Nat} {l : List Node} {s : Nat} (h : Tiles g n s l) :
    ∀ m ∈ l, m ∈ g.getD m.endAt [] := by
  induction l generalizing s with
  | nil => exact fun _ hm => nomatch hm
  | cons v r ih => exact List.forall_mem_cons.2 ⟨h.1, ih h.2.2.2⟩

theorem endAt_of_mem_previous_eos {input : Str} {g : Graph} (hg : GraphOK input g) {a : Node} (ha : InG g a)
    (h : a ∈ previous g .eos) : a.endAt + 1 = input.length := by
  have hlt := (inG_ok input g hg a ha).2
  rw [previous_eos] at h
  split at h
  · rw [List.mem_singleton.1 h] at ha
    exact absurd (inG_ok input g hg _ ha).1 id
  · rw [(hg.2 _ _ h).2, hg.1]
    omega

theorem endAt_of_mem_previous {input : Str} {g : Graph} (hg : GraphOK input g) {a b : Node} (ha : InG g a)
    (hb : 1 ≤ b.len) (h : a ∈ previous g b) : b.len ≤ b.endAt ∧ a.endAt = b.endAt - b.len := by
  rw [previous_of_len g b hb] at h
  split at h
  · rw [List.mem_singleton.1 h] at ha
    exact absurd (inG_ok input g hg _ ha).1 id
  · exact ⟨by omega, (hg.2 _ _ h).2⟩

/-- Stated for the induction: what follows `bos` (with `s = 0`) or a lattice node `a` (with `s` where `a` ends). -/
theorem tiles_of_chain (input : Str) (g : Graph) (hg : GraphOK input g) (hn : 0 < input.length) :
    ∀ (l : List Node) (a : Node) (s : Nat), IsChain g (a :: l) → (a = .bos ∧ s = 0 ∨ InG g a ∧ s = a.endAt + 1) →
      ∃ mid, l = mid ++ [.eos] ∧ Tiles g input.length s mid
  | [], a, s, hc, ha => by
    obtain rfl : a = .eos := hc
    rcases ha with ⟨h, _⟩ | ⟨h, _⟩
    · cases h
    · exact absurd (inG_ok input g hg _ h).1 id
  | [b], a, s, hc, ha => by
    obtain ⟨hab, rfl⟩ : a ∈ previous g b ∧ b = .eos := hc
    refine ⟨[], rfl, ?_⟩
    rcases ha with ⟨rfl, rfl⟩ | ⟨ha, rfl⟩
    · -- `bos` precedes `eos` only in the empty lattice
      simp only [previous_eos, show g.length ≠ 0 by rw [hg.1]; omega, if_false] at hab
      exact absurd (hg.2 _ _ hab).1 id
    · exact endAt_of_mem_previous_eos hg ha hab
  | b :: c :: rest, a, s, hc, ha => by
    obtain ⟨hab, hbc⟩ : a ∈ previous g b ∧ IsChain g (b :: c :: rest) := hc
    obtain ⟨j, hj⟩ : InG g b := by
      rcases previous_mem g b c hbc.1 with rfl | h
      · cases hab
      · exact h
    obtain ⟨hbok, hend⟩ := hg.2 j b hj
    obtain ⟨mid, hmid, ht⟩ := tiles_of_chain input g hg hn (c :: rest) b _ hbc (Or.inr ⟨⟨j, hj⟩, rfl⟩)
    have hlb := len_pos_of_ok input b hbok
    refine ⟨b :: mid, by rw [hmid, List.cons_append], hend ▸ hj, hlb.1, ?_, ht⟩
    rcases ha with ⟨rfl, rfl⟩ | ⟨ha, rfl⟩
    · -- `bos` precedes `b` only if `b` starts at the first character
      rw [previous_of_len g b hlb.1] at hab
      split at hab
      · omega
      · exact absurd (hg.2 _ _ hab).1 id
    · have := endAt_of_mem_previous hg ha hlb.1 hab
      omega

theorem chain_of_tiles_after (g : Graph) : ∀ (mid : List Node) (a : Node) (s : Nat),
    (a = .bos ∧ s = 0 ∨ a ∈ g.getD a.endAt [] ∧ s = a.endAt + 1) → Tiles g g.length s mid →
    IsChain g (a :: (mid ++ [.eos]))
  | [], a, s, ha, hs => by
    obtain rfl : s = g.length := hs
    refine ⟨?_, rfl⟩
    rw [previous_eos]
    rcases ha with ⟨rfl, h0⟩ | ⟨ha, h⟩
    · rw [if_pos h0]
      exact List.mem_singleton_self _
    · rw [if_neg (by omega), h, Nat.add_sub_cancel]
      exact ha
  | b :: r, a, s, ha, ⟨hin, hl, hb, ht⟩ => by
    refine ⟨?_, chain_of_tiles_after g r b _ (Or.inr ⟨hin, rfl⟩) ht⟩
    -- `b` starts at `s`: at the first character after `bos`, right after `a` otherwise
    rw [previous_of_len g b hl]
    rcases ha with ⟨rfl, rfl⟩ | ⟨ha, rfl⟩
    · rw [if_pos (by omega)]
      exact List.mem_singleton_self _
    · rw [if_neg (by omega), show b.endAt - b.len = a.endAt by omega]
      exact ha

theorem chain_of_tiling (g : Graph) (mid : List Node) {n : Nat} (hlen : g.length = n) (ht : Tiles g n 0 mid) :
    IsChain g (.bos :: (mid ++ [.eos])) :=
  chain_of_tiles_after g mid .bos 0 (Or.inl ⟨rfl, rfl⟩) (hlen ▸ ht)

theorem reading_of_ok (input : Str) (a : Node) (h : NodeOK input a) :
    nodeReading a = (input.drop (a.endAt + 1 - a.len)).take a.len := by
  cases a with
  | bos => exact absurd h id
  | eos => exact absurd h id
  | word e i w f =>
    obtain ⟨_, _, hle, hs⟩ := h
    refine hs.symm.trans ?_
    rw [slice, Nat.sub_sub_self hle]
    rfl
  | virt e i s f =>
    obtain ⟨_, he, _, hs⟩ := h
    simp only [nodeReading, Node.len, Node.endAt]
    rw [he, hs]
    exact List.take_length.symm

theorem isWord_of_ok {input : Str} {a : Node} (h : NodeOK input a)
    (he : a.endAt + 1 < input.length ∨ a.endAt + 1 = a.len) : isWord a = true := by
  cases a with
  | word _ _ _ _ => rfl
  | virt e i s f =>
    obtain ⟨_, hend, hlen, _⟩ := h
    simp only [Node.endAt, Node.len] at he
    omega
  | bos => exact absurd h id
  | eos => exact absurd h id

theorem readings_of_tiles {input : Str} {g : Graph} (hg : GraphOK input g) : ∀ (mid : List Node) (s : Nat),
    Tiles g input.length s mid → readings mid = input.drop s
  | [], s, hs => by
    obtain rfl : s = input.length := hs
    exact List.drop_length.symm
  | v :: r, s, ⟨hin, _, hv, hr⟩ => by
    show nodeReading v ++ readings r = _
    rw [readings_of_tiles hg r _ hr, reading_of_ok input v (hg.2 _ v hin).1, hv, Nat.add_sub_cancel, ← List.drop_drop]
    exact List.take_append_drop _ _

theorem words_of_tiles {input : Str} {g : Graph} (hg : GraphOK input g) : ∀ (mid : List Node) (s : Nat),
    Tiles g input.length s mid → ∀ m ∈ mid.dropLast, isWord m = true
  | [], _, _, _, hm => by cases hm
  | [_], _, _, _, hm => by cases hm
  | v :: b :: r, s, ⟨hin, _, _, hr⟩, m, hm => by
    rw [List.dropLast_cons_cons] at hm
    rcases List.mem_cons.1 hm with rfl | hm
    · -- `b` starts where `m` ends and ends inside the input
      obtain ⟨hbin, hlen, hstart, _⟩ := hr
      have hb := endAt_lt_of_ok (hg.2 _ b hbin).1
      exact isWord_of_ok (hg.2 _ m hin).1 (Or.inl (by omega))
    · exact words_of_tiles hg (b :: r) _ hr m hm

theorem chain_as_tiling (input : Str) (g : Graph) (hg : GraphOK input g) (hn : 0 < input.length)
    (r : List Node) (hc : IsChain g (.bos :: r)) :
    ∃ mid, r = mid ++ [.eos] ∧ mid ≠ [] ∧ readings mid = input ∧ (∀ m ∈ mid, m ∈ g.getD m.endAt []) ∧
      (∀ m ∈ mid.dropLast, isWord m = true) ∧ (∃ h t, mid = h :: t ∧ isWord h = true) := by
  obtain ⟨mid, hmid, ht⟩ := tiles_of_chain input g hg hn r .bos 0 hc (Or.inl ⟨rfl, rfl⟩)
  cases mid with
  | nil => exact absurd ht (Nat.ne_of_lt hn)
  | cons h t =>
    have hread : readings (h :: t) = input := (readings_of_tiles hg _ 0 ht).trans (List.drop_zero ..)
    have hwords := words_of_tiles hg _ 0 ht
    have ⟨hin, _, hstart, _⟩ := ht
    -- the first node starts at the first character
    have hfirst : h.endAt + 1 = h.len := hstart.trans (Nat.zero_add _)
    have hhead : isWord h = true := isWord_of_ok (hg.2 _ h hin).1 (Or.inr hfirst)
    exact ⟨h :: t, hmid, List.cons_ne_nil _ _, hread, ht.mem, hwords, h, t, rfl, hhead⟩

theorem getCandidates_tiles {t : Tables} {input : Str} {d : Dict} {ctx : Ctx} {f : Freq} {n fuel : Nat} {cs : List Cand}
    (hd : Dict.WF d) (hin : input ≠ []) (h : getCandidates t input d ctx f n fuel = some cs) :
    ∃ g0, fromInput t input d ctx = some g0 ∧ ∀ c ∈ cs, ∃ mid, c.chain = .bos :: (mid ++ [.eos]) ∧ mid ≠ [] ∧
      readings mid = input ∧ (∀ m ∈ mid, m ∈ (forwardDp t ctx f g0).getD m.endAt [] ∧ NodeOK input m) ∧
      (∀ m ∈ mid.dropLast, isWord m = true) ∧ (∃ h t, mid = h :: t ∧ isWord h = true) := by
  obtain ⟨g0, hg0, rfl⟩ := Option.map_eq_some_iff.1 h
  refine ⟨g0, hg0, fun c hc => ?_⟩
  have hg := forwardDp_ok t ctx f input g0 (fromInput_ok t input d ctx hd g0 hg0)
  obtain ⟨hchain, r, hr⟩ := nBest_chains t ctx f _ n fuel c hc
  rw [hr] at hchain
  obtain ⟨mid, hmid, hne, hread, hinG, rest⟩ := chain_as_tiling input _ hg (List.length_pos_iff.2 hin) r hchain
  exact ⟨mid, by rw [hr, hmid], hne, hread, fun m hm => ⟨hinG m hm, (hg.2 _ m (hinG m hm)).1⟩, rest⟩

end Chokan.Kkc
