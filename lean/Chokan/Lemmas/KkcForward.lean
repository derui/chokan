/-
The forward pass (C02, C06).  It changes nothing but the stored forward scores (`forwardDp_same`), so whatever
holds of the nodes of the lattice and ignores that score still holds afterwards (`SameUpToFwd.latticeAll`,
`forwardDp_ok`, and `forwardDp_fromDict` for the soundness part of C03); and every node then stores exactly the
Viterbi step over its predecessors' final scores (`FwdOK`, `forwardDp_fwdOK`).  That this score bounds the score
of every connectable path from the start of the sentence to the node is `walk_bound` in Lemmas/KkcAstar.
-/
import Chokan.Lemmas.KkcLattice

namespace Chokan.Kkc
open Chokan.Dic

def FwdOK (t : Tables) (ctx : Ctx) (f : Freq) (g : Graph) : Prop :=
  ∀ (j : Nat), ∀ v ∈ g.getD j [], v.fwd = bestScore t ctx f v (previous g v)

theorem bestScore_eq (t : Tables) (ctx : Ctx) (f : Freq) (cur : Node) (prevs : List Node) :
    bestScore t ctx f cur prevs = prevs.foldl (fun best p =>
      let sc := stepScore t ctx f cur p
      if Score.gt sc best then sc else best) none := rfl

theorem setFwd_fwd (input : Str) (n : Node) (sc : Score) (h : NodeOK input n) : (n.setFwd sc).fwd = sc := by
  cases n <;> simp_all [Node.setFwd, NodeOK, Node.fwd]

theorem setFwd_len (n : Node) (sc : Score) : (n.setFwd sc).len = n.len ∧ (n.setFwd sc).endAt = n.endAt := by
  cases n <;> simp [Node.setFwd, Node.len, Node.endAt]

theorem nodeScore_setFwd (t : Tables) (ctx : Ctx) (f : Freq) (n : Node) (sc : Score) :
    nodeScore t ctx f (n.setFwd sc) = nodeScore t ctx f n := by
  cases n <;> simp [Node.setFwd, nodeScore]

theorem edgeScore_setFwd (t : Tables) (ctx : Ctx) (p n : Node) (sc : Score) :
    edgeScore t ctx p (n.setFwd sc) = edgeScore t ctx p n := by
  cases n <;> cases p <;> simp [Node.setFwd, edgeScore]

theorem edgeScore_setFwd_left (t : Tables) (ctx : Ctx) (p n : Node) (sc : Score) :
    edgeScore t ctx (p.setFwd sc) n = edgeScore t ctx p n := by
  cases p <;> cases n <;> rfl

theorem text_setFwd (v : Node) (sc : Score) : (v.setFwd sc).text = v.text := by
  cases v <;> rfl

theorem previous_setFwd (g : Graph) (b : Node) (sc : Score) : previous g (b.setFwd sc) = previous g b := by
  cases b <;> rfl

theorem bestScore_setFwd (t : Tables) (ctx : Ctx) (f : Freq) (n : Node) (sc : Score) (prevs : List Node) :
    bestScore t ctx f (n.setFwd sc) prevs = bestScore t ctx f n prevs := by
  unfold bestScore
  simp only [nodeScore_setFwd, edgeScore_setFwd]

theorem previous_congr (input : Str) (g g' : Graph) (n : Node) (h : NodeOK input n)
    (hsame : ∀ k, k < n.endAt → g'.getD k [] = g.getD k []) : previous g' n = previous g n := by
  have hl := len_pos_of_ok input n h
  rw [previous_of_len g' n hl.1, previous_of_len g n hl.1]
  split
  · rfl
  · exact hsame _ (by omega)

/-- `forwardDp` is, by definition, the fold of `fwdStep` over the positions. -/
def fwdStep (t : Tables) (ctx : Ctx) (f : Freq) (g : Graph) (i : Nat) : Graph :=
  g.set i ((g.getD i []).map fun node => node.setFwd (bestScore t ctx f node (previous g node)))

theorem getD_fwdStep_ne (t : Tables) (ctx : Ctx) (f : Freq) (g : Graph) (i k : Nat) (hk : k ≠ i) :
    (fwdStep t ctx f g i).getD k [] = g.getD k [] := by
  rw [fwdStep, List.getD_eq_getElem?_getD, List.getElem?_set_ne (Ne.symm hk), List.getD_eq_getElem?_getD]

theorem getD_fwdStep_self (t : Tables) (ctx : Ctx) (f : Freq) (g : Graph) (i : Nat) :
    (fwdStep t ctx f g i).getD i [] =
      (g.getD i []).map fun node => node.setFwd (bestScore t ctx f node (previous g node)) := by
  by_cases hi : i < g.length <;> simp [fwdStep, hi]

def strip (v : Node) : Node := v.setFwd none

theorem eq_setFwd_of_strip {a b : Node} (h : strip a = strip b) : a = b.setFwd a.fwd := by
  cases a <;> cases b <;> simp_all [strip, Node.setFwd, Node.fwd]

def SameUpToFwd (g g' : Graph) : Prop :=
  g.length = g'.length ∧ ∀ j, (g.getD j []).map strip = (g'.getD j []).map strip

theorem SameUpToFwd.symm {g g' : Graph} (h : SameUpToFwd g g') : SameUpToFwd g' g :=
  ⟨h.1.symm, fun j => (h.2 j).symm⟩

theorem SameUpToFwd.trans {a b c : Graph} (h1 : SameUpToFwd a b) (h2 : SameUpToFwd b c) : SameUpToFwd a c :=
  ⟨h1.1.trans h2.1, fun j => (h1.2 j).trans (h2.2 j)⟩

theorem SameUpToFwd.mem {g g' : Graph} (h : SameUpToFwd g g') {j : Nat} {v : Node} (hv : v ∈ g.getD j []) :
    ∃ v' ∈ g'.getD j [], strip v' = strip v :=
  List.mem_map.1 (h.2 j ▸ List.mem_map_of_mem hv)

theorem fwdStep_same (t : Tables) (ctx : Ctx) (f : Freq) (g : Graph) (i : Nat) : SameUpToFwd g (fwdStep t ctx f g i) := by
  refine ⟨by simp [fwdStep], fun j => ?_⟩
  by_cases hj : j = i
  · subst hj
    rw [getD_fwdStep_self, List.map_map]
    exact List.map_congr_left fun a _ => by cases a <;> rfl
  · rw [getD_fwdStep_ne t ctx f g i j hj]

theorem foldl_fwdStep_same (t : Tables) (ctx : Ctx) (f : Freq) (is : List Nat) (g : Graph) :
    SameUpToFwd g (is.foldl (fwdStep t ctx f) g) :=
  List.foldlRecOn is _ ⟨rfl, fun _ => rfl⟩ fun b hb i _ => hb.trans (fwdStep_same t ctx f b i)

theorem forwardDp_same (t : Tables) (ctx : Ctx) (f : Freq) (g : Graph) : SameUpToFwd g (forwardDp t ctx f g) :=
  foldl_fwdStep_same t ctx f _ g

theorem forwardDp_mem (t : Tables) (ctx : Ctx) (f : Freq) (g : Graph) {j : Nat} {v : Node} (hv : v ∈ g.getD j []) :
    ∃ sc, v.setFwd sc ∈ (forwardDp t ctx f g).getD j [] := by
  obtain ⟨v', hv', hs⟩ := (forwardDp_same t ctx f g).mem hv
  exact ⟨v'.fwd, eq_setFwd_of_strip hs ▸ hv'⟩

theorem SameUpToFwd.latticeAll {N : Nat} {Q : Nat → Node → Prop} {g g' : Graph} (h : SameUpToFwd g g')
    (hset : ∀ j n sc, Q j n → Q j (n.setFwd sc)) (hg : LatticeAll N Q g) : LatticeAll N Q g' := by
  refine ⟨h.1.symm.trans hg.1, fun j n' hn' => ?_⟩
  obtain ⟨n, hn, hs⟩ := h.symm.mem hn'
  exact eq_setFwd_of_strip hs.symm ▸ hset j n _ (hg.2 j n hn)

theorem setFwd_graphOK (input : Str) (j : Nat) (n : Node) (sc : Score) (h : NodeOK input n ∧ n.endAt = j) :
    NodeOK input (n.setFwd sc) ∧ (n.setFwd sc).endAt = j := by
  obtain ⟨h, rfl⟩ := h
  cases n <;> simp_all [Node.setFwd, NodeOK, Node.endAt]

theorem forwardDp_ok (t : Tables) (ctx : Ctx) (f : Freq) (input : Str) (g : Graph) (hg : GraphOK input g) :
    GraphOK input (forwardDp t ctx f g) :=
  (forwardDp_same t ctx f g).latticeAll (setFwd_graphOK input) hg

def FromDict (d : Dict) : Node → Prop
  | .word _ _ w _ => w ∈ lookup d.stdTrie d.std w.reading ∨ w ∈ lookup d.ancTrie d.anc w.reading
  | .virt _ _ _ _ => True
  | _ => False

theorem forwardDp_fromDict (t : Tables) (input : Str) (d : Dict) (ctx : Ctx) (f : Freq) (h : Dict.WF d) (g : Graph)
    (hg : fromInput t input d ctx = some g) : LatticeAll input.length (fun _ => FromDict d) (forwardDp t ctx f g) := by
  -- `FromDict` ignores the index and the forward score of a node
  have hg0 : LatticeAll input.length (fun _ => FromDict d) g := by
    refine fromInput_all t input d ctx g ?_ ?_ (fun _ n _ hn => by cases n <;> exact hn) (fun _ _ _ => trivial) hg
    · intro _ _ _ w _ _ hw
      have hr := (lookup_reading h.1 hw).1
      exact Or.inl (hr.symm ▸ hw)
    · intro _ _ _ w _ _ hw
      have hr := (lookup_reading h.2 hw).1
      exact Or.inr (hr.symm ▸ hw)
  exact (forwardDp_same t ctx f g).latticeAll (fun _ n _ hn => by cases n <;> exact hn) hg0

def FwdUpTo (t : Tables) (ctx : Ctx) (f : Freq) (g : Graph) (m : Nat) : Prop :=
  ∀ j < m, ∀ v ∈ g.getD j [], v.fwd = bestScore t ctx f v (previous g v)

theorem foldl_fwdStep_upTo (t : Tables) (ctx : Ctx) (f : Freq) (input : Str) (g : Graph) (hg : GraphOK input g) :
    ∀ m, FwdUpTo t ctx f ((List.range m).foldl (fwdStep t ctx f) g) m
  | 0 => fun j hj => absurd hj (Nat.not_lt_zero j)
  | m + 1 => by
    have hup := foldl_fwdStep_upTo t ctx f input g hg m
    have hok : GraphOK input _ := (foldl_fwdStep_same t ctx f (List.range m) g).latticeAll (setFwd_graphOK input) hg
    rw [List.range_succ, List.foldl_append, List.foldl_cons, List.foldl_nil]
    generalize (List.range m).foldl (fwdStep t ctx f) g = b at hok hup
    intro j hj v hv
    -- the step at `m` leaves the positions before `j ≤ m` alone, and `previous` reads only those
    have hnode : ∀ u ∈ b.getD j [], NodeOK input u ∧ previous (fwdStep t ctx f b m) u = previous b u := by
      intro u hu
      obtain ⟨huok, hend⟩ := hok.2 j u hu
      exact ⟨huok, previous_congr input b _ u huok fun k hk => getD_fwdStep_ne t ctx f b m k (by omega)⟩
    by_cases hjm : j = m
    · subst hjm
      rw [getD_fwdStep_self] at hv
      obtain ⟨u, hu, rfl⟩ := List.mem_map.1 hv
      rw [previous_setFwd, (hnode u hu).2, bestScore_setFwd, setFwd_fwd input u _ (hnode u hu).1]
    · rw [getD_fwdStep_ne t ctx f b m j hjm] at hv
      rw [(hnode v hv).2]
      exact hup j (by omega) v hv

theorem forwardDp_fwdOK (t : Tables) (ctx : Ctx) (f : Freq) (input : Str) (g : Graph) (hg : GraphOK input g) :
    FwdOK t ctx f (forwardDp t ctx f g) := by
  intro j v hv
  obtain ⟨l, hl, _⟩ := (mem_getD_iff _ j v).1 hv
  have hj := (List.getElem?_eq_some_iff.1 hl).1
  rw [← (forwardDp_same t ctx f g).1] at hj
  exact foldl_fwdStep_upTo t ctx f input g hg g.length j hj v hv

end Chokan.Kkc
