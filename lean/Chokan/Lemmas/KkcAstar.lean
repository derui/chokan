/-
The backward A* search is best-first and optimal (C02).

With the forward scores exact Viterbi steps (`FwdOK`), the priority of a partial chain bounds the
score of every complete chain it is a suffix of, and children never have a greater priority than their
parent.  With the heap a max-heap (`KkcHeap`), complete chains therefore leave the heap in
non-increasing order of score, and every complete chain not yet output is still represented in the
heap by one of its suffixes.

`SInv` is the invariant of the loop: the heap is a max-heap (`heap`) of partial chains with their exact scores and
priorities (`cands`); `seen` holds the texts of `res` (`seenEq`), which has fewer than `n` entries (`len`) in
non-increasing order of score (`sorted`); no priority in the heap exceeds the score of a result (`bound`: what is
output later scores no more); every complete path has its text in `seen` or a suffix in the heap (`cover`); and a
complete path whose text is not among the results scores no more than any of them (`best`).  `SPost` is what the
loop ends in when it ends by itself (`nBestE_spec`): the order, and every complete path has its text among the
results unless there are `n` results none of which scores less.  `sInv_pop` says what popping a candidate and
pushing its successors does to the heap, `sInv_step` that one iteration keeps `SInv` or ends the loop in `SPost`.
-/
import Chokan.Lemmas.KkcSearch
import Chokan.Lemmas.KkcForward

namespace Chokan.Kkc
open Chokan.Dic

variable {t : Tables} {ctx : Ctx} {f : Freq} {g : Graph} {n : Nat}

theorem Score.add_eq_some (x y : Score) (z : Nat) :
    Score.add x y = some z ↔ ∃ a b, x = some a ∧ y = some b ∧ z = a + b := by
  cases x <;> cases y <;> simp [Score.add, eq_comm]

theorem Score.zero_add (x : Score) : Score.add (some 0) x = x := by
  cases x <;> simp [Score.add]

theorem Score.add_zero (x : Score) : Score.add x (some 0) = x := by
  cases x <;> simp [Score.add]

theorem Score.add_assoc (x y z : Score) : Score.add (Score.add x y) z = Score.add x (Score.add y z) := by
  cases x <;> cases y <;> cases z <;> simp [Score.add, Nat.add_assoc]

theorem pathScore_split (t : Tables) (ctx : Ctx) (f : Freq) : ∀ (pre : List Node) (cur : Node) (rest : List Node),
    pathScore t ctx f (pre ++ cur :: rest) =
      Score.add (pathScore t ctx f (pre ++ [cur])) (pathScore t ctx f (cur :: rest))
  | [], cur, rest => by simp [pathScore, Score.zero_add]
  | [a], cur, rest => by
    simp only [List.cons_append, List.nil_append, pathScore_cons2]
    simp [pathScore, Score.add_zero]
  | a :: b :: pre, cur, rest => by
    have ih := pathScore_split t ctx f (b :: pre) cur rest
    simp only [List.cons_append, pathScore_cons2] at ih ⊢
    rw [ih]; exact (Score.add_assoc _ _ _).symm

theorem pathScore_cons2_some {a b : Node} {rest : List Node} {s : Nat}
    (h : pathScore t ctx f (a :: b :: rest) = some s) :
    ∃ e nv s', edgeScore t ctx a b = some e ∧ nodeScore t ctx f b = some nv ∧
      pathScore t ctx f (b :: rest) = some s' ∧ s = e + nv + s' := by
  obtain ⟨w, s', hw, hs', rfl⟩ := (Score.add_eq_some _ _ _).1 h
  obtain ⟨e, nv, he, hnv, rfl⟩ := (Score.add_eq_some _ _ _).1 hw
  exact ⟨e, nv, s', he, hnv, hs', rfl⟩

theorem isChain_head_known {v : Node} {L : List Node} (h : IsChain g (v :: L)) (hL : L ≠ []) :
    v = .bos ∨ InG g v := by
  cases L with
  | nil => exact absurd rfl hL
  | cons w L => exact previous_mem g v w h.1

theorem fwd_ge_stepScore (hF : FwdOK t ctx f g) {p cur : Node} (hp : p ∈ previous g cur) (hcur : cur = .bos ∨ InG g cur)
    {pf e nv : Nat} (hpf : p.fwd = some pf) (he : edgeScore t ctx p cur = some e)
    (hnv : nodeScore t ctx f cur = some nv) : ∃ cf, cur.fwd = some cf ∧ pf + nv + e ≤ cf := by
  rcases hcur with rfl | ⟨j, hj⟩
  · cases hp
  · rw [hF j cur hj]
    exact foldl_best_ge t ctx f cur (previous g cur) none _
      (Or.inr ⟨p, hp, by simp [stepScore, hpf, hnv, he, Score.add]⟩)

/-- Walking a chain from `u` to `cur`: the forward score of `cur` plus the score of the chain from `cur` bounds the
forward score of `u` plus the score of the chain from `u`. -/
theorem walk_bound (hF : FwdOK t ctx f g) {cur nxt : Node} {rest : List Node} :
    ∀ (pre : List Node) (u : Node) (b0 s : Nat), u.fwd = some b0 →
      IsChain g (u :: (pre ++ cur :: nxt :: rest)) →
      pathScore t ctx f (u :: (pre ++ cur :: nxt :: rest)) = some s →
      ∃ b bb, IsChain g (cur :: nxt :: rest) ∧ pathScore t ctx f (cur :: nxt :: rest) = some b ∧
        cur.fwd = some bb ∧ b0 + s ≤ bb + b
  | [], u, b0, s, hu, hch, hs => by
    obtain ⟨e, nv, b, he, hnv, hb, rfl⟩ := pathScore_cons2_some hs
    obtain ⟨bb, hbb, hle⟩ := fwd_ge_stepScore hF hch.1 (previous_mem g _ _ hch.2.1) hu he hnv
    exact ⟨b, bb, hch.2, hb, hbb, by omega⟩
  | v :: pre, u, b0, s, hu, hch, hs => by
    obtain ⟨e, nv, s', he, hnv, hs', rfl⟩ := pathScore_cons2_some hs
    obtain ⟨b1, hb1, hle⟩ := fwd_ge_stepScore hF hch.1 (isChain_head_known hch.2 (by simp)) hu he hnv
    obtain ⟨b, bb, h1, h2, h3, h4⟩ := walk_bound hF pre v b1 s' hb1 hch.2 hs'
    exact ⟨b, bb, h1, h2, h3, by omega⟩

/-- A partial chain beyond the root `[eos]`, with its accumulated score and its priority
(accumulated score plus the forward score of its first node). -/
def CandOK (t : Tables) (ctx : Ctx) (f : Freq) (g : Graph) (x : Cand) : Prop :=
  ∃ cur nxt rest, x.chain = cur :: nxt :: rest ∧ IsChain g x.chain ∧
    pathScore t ctx f x.chain = some x.score ∧ Score.add (some x.score) cur.fwd = some x.priority

/-- A complete connectable path from `bos` to `eos` with score `s`. -/
def Complete (t : Tables) (ctx : Ctx) (f : Freq) (g : Graph) (C : List Node) (s : Nat) : Prop :=
  (∃ p, C = .bos :: p) ∧ IsChain g C ∧ pathScore t ctx f C = some s

def chainText (C : List Node) : Str := (C.map Node.text).flatten

theorem child_ok {x y : Cand} {cur p : Node} {rest : List Node}
    (hch : IsChain g x.chain) (hps : pathScore t ctx f x.chain = some x.score) (hc : x.chain = cur :: rest)
    (hp : p ∈ previous g cur) (hy : IsChild t ctx f x cur p y) : CandOK t ctx f g y := by
  obtain ⟨next, prio, h1, h2, rfl⟩ := hy
  rw [hc] at hch hps
  refine ⟨p, cur, rest, by simp [hc], ?_, ?_, h2⟩
  · simp only [hc, IsChain]; exact ⟨hp, hch⟩
  · simp only [hc]
    rw [pathScore_cons2, hps]; exact h1

theorem child_le (hF : FwdOK t ctx f g) {x y : Cand} {cur p : Node} (hcur : cur = .bos ∨ InG g cur)
    (hpr : Score.add (some x.score) cur.fwd = some x.priority) (hp : p ∈ previous g cur)
    (hy : IsChild t ctx f x cur p y) : y.priority ≤ x.priority := by
  obtain ⟨next, prio, h1, h2, rfl⟩ := hy
  obtain ⟨w, sc, hw, hsc, rfl⟩ := (Score.add_eq_some _ _ _).1 h1
  obtain ⟨e, nv, he, hnv, rfl⟩ := (Score.add_eq_some _ _ _).1 hw
  obtain ⟨a1, pf, ha1, hpf, rfl⟩ := (Score.add_eq_some _ _ _).1 h2
  obtain ⟨cf, hcf, hle⟩ := fwd_ge_stepScore hF hp hcur hpf he hnv
  rw [hcf] at hpr
  cases hsc
  cases ha1
  injection hpr with hpr
  show _ + pf ≤ x.priority
  omega

theorem prefix_fwd (hF : FwdOK t ctx f g) {C : List Node} {s : Nat} (hC : Complete t ctx f g C s)
    {pre : List Node} {cur nxt : Node} {rest : List Node} (hsuf : C = pre ++ cur :: nxt :: rest) :
    ∃ b bb, IsChain g (cur :: nxt :: rest) ∧ pathScore t ctx f (cur :: nxt :: rest) = some b ∧
      cur.fwd = some bb ∧ s ≤ bb + b := by
  obtain ⟨⟨p, hCb⟩, hch, hs⟩ := hC
  subst hsuf
  cases pre with
  | nil =>
    obtain rfl : cur = .bos := by injection hCb
    exact ⟨s, 0, hch, hs, rfl, by omega⟩
  | cons q pre =>
    obtain rfl : q = .bos := by injection hCb
    obtain ⟨b, bb, h1, h2, h3, h4⟩ := walk_bound hF pre .bos 0 s rfl hch hs
    exact ⟨b, bb, h1, h2, h3, Nat.zero_add s ▸ h4⟩

theorem suffix_bound (hF : FwdOK t ctx f g) {x : Cand} {C : List Node} {s : Nat} (hx : CandOK t ctx f g x)
    (hC : Complete t ctx f g C s) {pre : List Node} (hsuf : C = pre ++ x.chain) : s ≤ x.priority := by
  obtain ⟨cur, nxt, rest, hc, _, hps, hpr⟩ := hx
  rw [hc] at hsuf hps
  obtain ⟨b, bb, _, hb, hbb, hle⟩ := prefix_fwd hF hC hsuf
  rw [hps] at hb
  rw [hbb] at hpr
  cases hb
  injection hpr with hpr
  omega

theorem suffix_pop (hF : FwdOK t ctx f g) {x : Cand} {C : List Node} {s : Nat}
    (hps : pathScore t ctx f x.chain = some x.score) (hC : Complete t ctx f g C s)
    {pre : List Node} (hsuf : C = pre ++ x.chain) {cur : Node} {rest : List Node} (hc : x.chain = cur :: rest)
    (h : Heap) : pre = [] ∨ ∃ y ∈ expand t ctx f g x h, ∃ pre', C = pre' ++ y.chain := by
  rcases List.eq_nil_or_concat pre with hnil | ⟨pre', p0, rfl⟩
  · exact Or.inl hnil
  · right
    -- `p0` is the last node before `x.chain`: the child of `x` through `p0` is pushed by `expand`, and `pre'` is what remains
    rw [List.concat_eq_append, List.append_assoc, List.singleton_append] at hsuf
    obtain ⟨b, bb, hch, hb, hbb, _⟩ := prefix_fwd hF hC (hc ▸ hsuf)
    rw [pathScore_cons2, ← hc, hps] at hb
    let y : Cand := { chain := p0 :: x.chain, score := b, priority := b + bb }
    have hy : IsChild t ctx f x cur p0 y := ⟨b, b + bb, hb, by rw [hbb]; rfl, rfl⟩
    exact ⟨y, (expand_mem hc h y).2 (Or.inr ⟨p0, hch.1, hy⟩), pre', hsuf⟩

structure SInv (t : Tables) (ctx : Ctx) (f : Freq) (g : Graph) (n : Nat)
    (h : Heap) (res : List Cand) (seen : List Str) : Prop where
  heap : HeapOK h
  cands : ∀ x ∈ h, CandOK t ctx f g x
  seenEq : ∀ x, x ∈ seen ↔ x ∈ res.map Cand.text
  len : res.length < n
  sorted : (res.map Cand.score).Pairwise (· ≥ ·)
  bound : ∀ r ∈ res, ∀ x ∈ h, x.priority ≤ r.score
  cover : ∀ C s, Complete t ctx f g C s → chainText C ∈ seen ∨ ∃ x ∈ h, ∃ pre, C = pre ++ x.chain
  best : ∀ r ∈ res, ∀ C s, Complete t ctx f g C s → chainText C ∈ res.map Cand.text ∨ s ≤ r.score

def SPost (t : Tables) (ctx : Ctx) (f : Freq) (g : Graph) (n : Nat) (R : List Cand) : Prop :=
  (R.map Cand.score).Pairwise (· ≥ ·) ∧
  ∀ C s, Complete t ctx f g C s → chainText C ∈ R.map Cand.text ∨ (n ≤ R.length ∧ ∀ r ∈ R, s ≤ r.score)

theorem complete_prio (t : Tables) (ctx : Ctx) (f : Freq) (g : Graph) (c : Cand) (r : List Node)
    (hc : CandOK t ctx f g c) (hchain : c.chain = .bos :: r) : c.priority = c.score := by
  obtain ⟨cur, nxt, rest, hc', _, _, hpr⟩ := hc
  rw [hchain] at hc'
  obtain rfl : Node.bos = cur := by injection hc'
  exact (Option.some.inj ((Score.add_zero _).symm.trans hpr)).symm

theorem expand_ok (t : Tables) (ctx : Ctx) (f : Freq) (g : Graph) (c : Cand) (h : Heap) (hh : HeapOK h) :
    HeapOK (expand t ctx f g c h) := by
  cases hc : c.chain with
  | nil => exact (expand_nil t ctx f g c h hc).symm ▸ hh
  | cons cur rest =>
    rw [expand_eq t ctx f g c h cur rest hc]
    refine List.foldlRecOn _ _ hh fun b hb p _ => ?_
    rcases pushChild_cases t ctx f c cur b p with ⟨he, _⟩ | ⟨y, he, _⟩
    · rwa [he]
    · rw [he]; exact heapPush_ok b y hb

theorem sInv_pop (hF : FwdOK t ctx f g) {h : Heap} {res : List Cand} {seen : List Str} {c : Cand} {h1 : Heap}
    (hI : SInv t ctx f g n h res seen) (hp : heapPop h = some (c, h1)) :
    HeapOK (expand t ctx f g c h1) ∧ (∀ x ∈ expand t ctx f g c h1, CandOK t ctx f g x) ∧
    (∀ x, x ∈ h ∨ x ∈ expand t ctx f g c h1 → x.priority ≤ c.priority) ∧
    ∀ C s, Complete t ctx f g C s → chainText C ∈ seen ∨ ((∃ r, c.chain = .bos :: r) ∧ chainText C = c.text) ∨
      ∃ x ∈ expand t ctx f g c h1, ∃ pre, C = pre ++ x.chain := by
  obtain ⟨hok1, hmax⟩ := heapPop_spec h c h1 hI.heap hp
  have hpop := heapPop_mem h c h1 hp
  have hcin : c ∈ h := (hpop c).2 (Or.inr rfl)
  obtain ⟨cur, nxt, rest, hcc, hcch, hpsc, hprio⟩ := hI.cands c hcin
  rw [hcc] at hcch
  have hexpmem := expand_mem (t := t) (ctx := ctx) (f := f) (g := g) hcc h1
  refine ⟨expand_ok t ctx f g c h1 hok1, ?_, ?_, ?_⟩
  · refine (pop_expand_forall (fun c _ _ _ _ hc => ?_) hp hI.cands).2
    obtain ⟨_, _, _, _, hch, hps, _⟩ := hc
    exact child_ok hch hps
  · rintro x (hx | hx)
    · exact hmax x hx
    · rcases (hexpmem x).1 hx with hx | ⟨p, hp', hch⟩
      · exact hmax x ((hpop x).2 (Or.inl hx))
      · exact child_le hF (previous_mem g _ _ hcch.1) hprio hp' hch
  · intro C s hC
    rcases hI.cover C s hC with hseen | ⟨x, hx, pre, hpre⟩
    · exact Or.inl hseen
    · right
      rcases (hpop x).1 hx with hx1 | rfl
      · exact Or.inr ⟨x, (hexpmem x).2 (Or.inl hx1), pre, hpre⟩
      · -- the path was represented by the popped candidate: it is that candidate, or a successor takes over
        rcases suffix_pop hF hpsc hC hpre hcc h1 with rfl | hcov
        · obtain ⟨p, hCb⟩ := hC.1
          rw [List.nil_append] at hpre
          exact Or.inl ⟨⟨p, hpre ▸ hCb⟩, by rw [hpre]; rfl⟩
        · exact Or.inr hcov

theorem sInv_step (hF : FwdOK t ctx f g) {h : Heap} {res : List Cand} {seen : List Str}
    (hI : SInv t ctx f g n h res seen) :
    searchStep t ctx f g n (SPost t ctx f g n) (SInv t ctx f g n) h res seen := by
  refine searchStep_intro ?_ fun c h1 hp => ?_
  · intro hp
    refine ⟨hI.sorted, fun C s hC => ?_⟩
    rcases hI.cover C s hC with hseen | ⟨x, hx, _⟩
    · exact Or.inl ((hI.seenEq _).1 hseen)
    · rw [heapPop_none h hp] at hx; simp at hx
  obtain ⟨hok, hcands, hle, hcover⟩ := sInv_pop hF hI hp
  have hcin : c ∈ h := (heapPop_mem h c h1 hp c).2 (Or.inr rfl)
  have hbound : ∀ r ∈ res, ∀ x ∈ expand t ctx f g c h1, x.priority ≤ r.score := fun r hr x hx =>
    Nat.le_trans (hle x (Or.inr hx)) (hI.bound r hr c hcin)
  constructor
  · intro hnew
    refine ⟨hok, hcands, hI.seenEq, hI.len, hI.sorted, hbound, fun C s hC => ?_, hI.best⟩
    rcases hcover C s hC with h1' | ⟨⟨r, hr⟩, htxt⟩ | h3'
    · exact Or.inl h1'
    · -- a complete candidate that is not output has a text seen before
      exact Or.inl (htxt ▸ hnew r hr)
    · exact Or.inr h3'
  · intro r hchain hnotseen
    have hprio : c.priority = c.score := complete_prio t ctx f g c r (hI.cands c hcin) hchain
    have hsorted' : ((res ++ [c]).map Cand.score).Pairwise (· ≥ ·) := by
      rw [List.map_append, List.pairwise_append]
      refine ⟨hI.sorted, by simp, ?_⟩
      intro a ha b hb
      obtain rfl : b = c.score := by simpa using hb
      obtain ⟨r0, hr0, rfl⟩ := List.mem_map.1 ha
      exact hprio ▸ hI.bound r0 hr0 c hcin
    have hbest' : ∀ r0 ∈ res ++ [c], ∀ C s, Complete t ctx f g C s →
        chainText C ∈ (res ++ [c]).map Cand.text ∨ s ≤ r0.score := by
      refine List.forall_mem_append.2 ⟨fun r0 hr0 C s hC => ?_, List.forall_mem_singleton.2 fun C s hC => ?_⟩
      · rw [List.map_append, List.mem_append]
        exact (hI.best r0 hr0 C s hC).imp_left Or.inl
      · rcases hI.cover C s hC with hseen | ⟨x, hx, pre, hpre⟩
        · exact Or.inl (by simp [(hI.seenEq _).1 hseen])
        · -- the path has a suffix in the heap, whose priority bounds it and is at most that of `c`
          right
          rw [← hprio]
          exact Nat.le_trans (suffix_bound hF (hI.cands x hx) hC hpre) (hle x (Or.inl hx))
    constructor
    · intro hge
      refine ⟨hsorted', fun C s hC => ?_⟩
      by_cases hin : chainText C ∈ (res ++ [c]).map Cand.text
      · exact Or.inl hin
      · exact Or.inr ⟨by simpa using hge, fun r0 hr0 => (hbest' r0 hr0 C s hC).resolve_left hin⟩
    · intro hlt
      refine ⟨hok, hcands, seenEq_snoc hI.seenEq c, by simpa using hlt, hsorted', ?_, ?_, hbest'⟩
      · exact List.forall_mem_append.2 ⟨hbound, List.forall_mem_singleton.2 fun x hx => hprio ▸ hle x (Or.inr hx)⟩
      · intro C s hC
        rcases hcover C s hC with h1' | ⟨_, htxt⟩ | h3'
        · exact Or.inl (List.mem_cons_of_mem _ h1')
        · exact Or.inl (htxt ▸ List.mem_cons_self)
        · exact Or.inr h3'

def rootCand : Cand := { chain := [.eos], score := 0, priority := 0 }

def nBestE (t : Tables) (ctx : Ctx) (f : Freq) (g : Graph) (n fuel : Nat) : Option (List Cand) :=
  searchE t ctx f g n fuel (heapPush #[] rootCand) [] []

theorem nBestE_some (t : Tables) (ctx : Ctx) (f : Freq) (g : Graph) (n fuel : Nat) (R : List Cand)
    (h : nBestE t ctx f g n fuel = some R) : nBest t ctx f g n fuel = R :=
  searchE_some fuel _ [] [] R h

theorem nBestE_mono (t : Tables) (ctx : Ctx) (f : Freq) (g : Graph) (n fuel : Nat) (R : List Cand)
    (h : nBestE t ctx f g n fuel = some R) {fuel' : Nat} (hle : fuel ≤ fuel') : nBestE t ctx f g n fuel' = some R := by
  induction hle with
  | refl => exact h
  | step _ ih => exact searchE_mono _ _ [] [] R ih

theorem nBestE_succ (t : Tables) (ctx : Ctx) (f : Freq) (g : Graph) (n fuel : Nat) :
    nBestE t ctx f g n (fuel + 1) = searchE t ctx f g n fuel (expand t ctx f g rootCand #[]) [] [] := by
  rw [nBestE, heapPush_empty, searchE_succ, searchStep, heapPop_single]
  rfl

theorem isChain_last (g : Graph) : ∀ (C : List Node), IsChain g C → ∃ pre, C = pre ++ [.eos]
  | [], h => by cases h
  | [a], h => by simp only [IsChain] at h; subst h; exact ⟨[], rfl⟩
  | a :: b :: l, h => by
    obtain ⟨pre, hpre⟩ := isChain_last g (b :: l) h.2
    exact ⟨a :: pre, by rw [hpre]; rfl⟩

theorem nBestE_spec (t : Tables) (ctx : Ctx) (f : Freq) (g : Graph) (n fuel : Nat) (hn : 1 ≤ n)
    (hF : FwdOK t ctx f g) (R : List Cand) (h : nBestE t ctx f g n fuel = some R) :
    SPost t ctx f g n R := by
  cases fuel with
  | zero => nomatch h
  | succ fuel =>
    rw [nBestE_succ] at h
    -- `SInv` holds from the second iteration on: `CandOK` wants a chain beyond the root `[eos]`
    refine searchE_inv (fun _ _ _ => sInv_step hF) fuel _ [] [] R ?_ h
    refine {
      heap := expand_ok t ctx f g rootCand #[] (fun i _ x p hx => by simp at hx)
      cands := ?_
      seenEq := by simp
      len := hn
      sorted := List.Pairwise.nil
      bound := by simp
      cover := ?_
      best := by simp }
    · intro x hx
      rcases (expand_mem (c := rootCand) (cur := .eos) (rest := []) rfl #[] x).1 hx with hx | ⟨p, hp, hch⟩
      · simp at hx
      · exact child_ok (x := rootCand) rfl rfl rfl hp hch
    · intro C s hC
      right
      obtain ⟨pre, hpre⟩ := isChain_last g C hC.2.1
      rcases suffix_pop hF (x := rootCand) rfl hC hpre rfl #[] with rfl | hcov
      · obtain ⟨p, hCb⟩ := hC.1
        rw [hCb] at hpre
        cases hpre
      · exact hcov

end Chokan.Kkc
