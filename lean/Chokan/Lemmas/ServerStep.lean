/-
The operations of Chokan.Model.Server on a running state (`convert`, `confirm`, `register`, `applyEntry`, `save`) in normal
form: each is the state it was given with some fields replaced (`{ s with … }`), so after rewriting with its equation what
an operation leaves alone is read off by `rfl` (`chosen` / `learned` / `queued`: what a confirmation reads and writes).
A step of a history has one of two shapes (`stepOp_client`, `stepOp_apply`); `stepOp_sessions`: what it does to the sessions.
-/
import Chokan.Model.Server

namespace Chokan.Server
open Chokan.Kkc Chokan.Dic

theorem convert_eq (c : Cfg) (s : State) (ctx : Ctx) (input : Str) : ∃ cs,
    convert c s ctx input =
      some ({ s with sessions := s.sessions ++ [⟨s.nextSid, ctx, cs⟩], nextSid := s.nextSid + 1 }, s.nextSid, cs) := by
  -- `fromInput` always returns `some`: there is nothing left that could fail
  simp [convert, getCandidates, fromInput]

theorem convert_answer (c : Cfg) (s : State) (ctx : Ctx) (input : Str) :
    (convert c s ctx input).map (·.2.2) =
      getCandidates c.tables input s.dict ctx (toKkcFreq s.freq) c.nCandidates c.fuel := by
  unfold convert
  cases getCandidates c.tables input s.dict ctx (toKkcFreq s.freq) c.nCandidates c.fuel <;> rfl

theorem convert_eq_some {c : Cfg} {s s' : State} {ctx : Ctx} {input : Str} {sid : Nat} {cs : List Cand}
    (h : convert c s ctx input = some (s', sid, cs)) :
    s' = { s with sessions := s.sessions ++ [⟨s.nextSid, ctx, cs⟩], nextSid := s.nextSid + 1 } ∧ sid = s.nextSid := by
  obtain ⟨cs', h'⟩ := convert_eq c s ctx input
  cases h'.symm.trans h
  exact ⟨rfl, rfl⟩

def chosen (s : State) (sid : Nat) (cid : Option Nat) : Option (Session × Cand) :=
  (s.sessions.find? (·.sid == sid)).bind fun sess => (cid.bind fun i => sess.cands[i]?).map (sess, ·)

def learned (c : Cfg) (s : State) (sid : Nat) (cid : Option Nat) (now : Int) : List FreqEntry :=
  match chosen s sid cid with
  | some (sess, cand) =>
    match independentWord cand.chain with
    | some w => expire (updateWord s.freq sess.ctx w now) now c.expiryMs
    | none => s.freq
  | none => s.freq

def queued (s : State) (sid : Nat) (cid : Option Nat) : List Entry :=
  match chosen s sid cid with
  | some (_, cand) =>
    match withAffix cand.chain with
    | some (word, reading) => [⟨word, reading, .noun .common⟩]
    | none => []
  | none => []

theorem confirm_eq (c : Cfg) (s : State) (sid : Nat) (cid : Option Nat) (now : Int) :
    confirm c s sid cid now =
      { s with sessions := s.sessions.filter (·.sid != sid), freq := learned c s sid cid now,
               pending := s.pending ++ queued s sid cid } := by
  unfold confirm popSession learned queued chosen
  cases s.sessions.find? (·.sid == sid) with
  | none => simp
  | some sess =>
    simp only [Option.bind_some]
    cases (cid.bind fun i => sess.cands[i]?) with
    | none => simp
    | some cand =>
      simp only [Option.map_some]
      cases independentWord cand.chain <;> cases withAffix cand.chain <;> simp

theorem chosen_eq_some {s : State} {sid i : Nat} {sess : Session} {cand : Cand}
    (h : s.sessions.find? (·.sid == sid) = some sess) (hc : sess.cands[i]? = some cand) :
    chosen s sid (some i) = some (sess, cand) := by simp [chosen, h, hc]

theorem confirm_eq_of_none {c : Cfg} {s : State} {sid : Nat} {cid : Option Nat} {now : Int} (h : chosen s sid cid = none) :
    confirm c s sid cid now = { s with sessions := s.sessions.filter (·.sid != sid) } := by
  simp [confirm_eq, learned, queued, h]

theorem confirm_unknown_session {c : Cfg} {s : State} {sid : Nat} {cid : Option Nat} {now : Int}
    (h : s.sessions.find? (·.sid == sid) = none) :
    confirm c s sid cid now = { s with sessions := s.sessions.filter (·.sid != sid) } :=
  confirm_eq_of_none (by rw [chosen, h, Option.bind_none])

theorem confirm_unknown_candidate {c : Cfg} {s : State} {sid : Nat} {cid : Option Nat} {now : Int} {sess : Session}
    (h : s.sessions.find? (·.sid == sid) = some sess) (hc : (cid.bind fun i => sess.cands[i]?) = none) :
    confirm c s sid cid now = { s with sessions := s.sessions.filter (·.sid != sid) } :=
  confirm_eq_of_none (by rw [chosen, h, Option.bind_some, hc, Option.map_none])

theorem find?_filter_sid (l : List Session) (sid : Nat) : (l.filter (·.sid != sid)).find? (·.sid == sid) = none :=
  List.find?_eq_none.2 fun x hx => by simpa using (List.mem_filter.1 hx).2

theorem register_eq (c : Cfg) (s : State) (k : RegKind) (r w : Str) : ∃ e : Option Entry,
    (∀ x ∈ e, storable c x = true) ∧ register c s k r w = e.map fun x => { s with pending := s.pending ++ [x] } :=
  ⟨_, fun _ hx => (Option.mem_filter_iff.1 hx).2, rfl⟩

theorem mergeEntries_append (c : Cfg) (es' : List Entry) : ∀ (es : List Entry) (d : Dict),
    mergeEntries c d (es ++ es') = (mergeEntries c d es).bind fun d' => mergeEntries c d' es'
  | [], _ => rfl
  | x :: xs, d => by
    simp only [List.cons_append, mergeEntries, Option.bind_assoc, mergeEntries_append c es' xs]

theorem applyEntry_eq (c : Cfg) (s : State) :
    applyEntry c s = match s.pending with
      | [] => some s
      | e :: rest => (entryToWords c.conj c.adj c.adjv e).map fun ws =>
          { s with pending := rest, userDict := s.userDict ++ [e], dict := ws.foldl (addStdWord c.alpha) s.dict } := by
  unfold applyEntry mergeEntry
  cases s.pending <;> simp [Option.map_map, Function.comp_def]

theorem save_eq (c : Cfg) (s : State) :
    save c s = { s with saved := if s.hasDir then some ⟨s.freq, Chokan.DicText.writeAll c.names c.vsuf s.userDict⟩ else s.saved } := by
  unfold save
  split <;> rfl

theorem stepOp_convert (c : Cfg) (s : State) (ctx : Ctx) (input : Str) : ∃ cs,
    stepOp c s (.convert ctx input) = { s with sessions := s.sessions ++ [⟨s.nextSid, ctx, cs⟩], nextSid := s.nextSid + 1 } := by
  obtain ⟨cs, h⟩ := convert_eq c s ctx input
  exact ⟨cs, by simp only [stepOp, h]⟩

theorem stepOp_register (c : Cfg) (s : State) (k : RegKind) (r w : Str) : ∃ q,
    stepOp c s (.register k r w) = { s with pending := s.pending ++ q } := by
  obtain ⟨e, _, h⟩ := register_eq c s k r w
  exact ⟨e.toList, by cases e <;> simp [stepOp, h]⟩

theorem stepOp_client (c : Cfg) (s : State) {op : Op} (h : op ≠ .apply) : ∃ ss n f q sv,
    stepOp c s op = { s with sessions := ss, nextSid := n, freq := f, pending := s.pending ++ q, saved := sv } := by
  cases op with
  | apply => exact absurd rfl h
  | convert ctx input =>
    obtain ⟨cs, h⟩ := stepOp_convert c s ctx input
    exact ⟨_, _, s.freq, [], s.saved, by rw [h, List.append_nil]⟩
  | confirm sid cid now => exact ⟨_, s.nextSid, _, _, s.saved, confirm_eq ..⟩
  | register k r w =>
    obtain ⟨q, h⟩ := stepOp_register c s k r w
    exact ⟨s.sessions, s.nextSid, s.freq, q, s.saved, h⟩
  | save => exact ⟨s.sessions, s.nextSid, s.freq, [], _, by rw [stepOp, save_eq, List.append_nil]⟩

/-- The first disjunct: the channel is empty, or `entryToWords` fails (the updater's panic, a no-op of `stepOp`). -/
theorem stepOp_apply (c : Cfg) (s : State) :
    stepOp c s .apply = s ∨ ∃ e rest ws, s.pending = e :: rest ∧ entryToWords c.conj c.adj c.adjv e = some ws ∧
      stepOp c s .apply =
        { s with pending := rest, userDict := s.userDict ++ [e], dict := ws.foldl (addStdWord c.alpha) s.dict } := by
  simp only [stepOp, applyEntry_eq]
  split
  · exact .inl rfl
  · next e rest hp =>
    cases hw : entryToWords c.conj c.adj c.adjv e with
    | none => exact .inl rfl
    | some ws => exact .inr ⟨e, rest, ws, hp, hw, rfl⟩

theorem stepOp_sessions (c : Cfg) (s : State) (op : Op) :
    (∃ ctx cs, (stepOp c s op).sessions = s.sessions ++ [⟨s.nextSid, ctx, cs⟩] ∧ (stepOp c s op).nextSid = s.nextSid + 1) ∨
    (stepOp c s op).nextSid = s.nextSid ∧
      ((stepOp c s op).sessions = s.sessions ∨
       ∃ sid cid now, op = .confirm sid cid now ∧ (stepOp c s op).sessions = s.sessions.filter (·.sid != sid)) := by
  cases op with
  | convert ctx input =>
    obtain ⟨cs, h⟩ := stepOp_convert c s ctx input
    exact .inl ⟨ctx, cs, by simp [h]⟩
  | confirm sid cid now => exact .inr ⟨by simp [stepOp, confirm_eq], .inr ⟨sid, cid, now, rfl, by simp [stepOp, confirm_eq]⟩⟩
  | apply => rcases stepOp_apply c s with h | ⟨_, _, _, _, _, h⟩ <;> exact .inr (by simp [h])
  | register k r w =>
    obtain ⟨_, h⟩ := stepOp_register c s k r w
    exact .inr (by simp [h])
  | save => exact .inr (by simp [stepOp, save_eq])

end Chokan.Server
