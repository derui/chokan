/-
Lemmas about the fine-grained concurrency model (Model/Conc): the lock discipline is an invariant of every
schedule, and under it the lock-wait graph of every reachable state ends in a thread that can move; requests never
wait for a message (`ReqNoWait`), so an unfinished request moves or waits for a lock whose holder moves.
-/
import Chokan.Model.Conc

namespace Chokan.Conc
open Chokan.Gen.Server

theorem lockFree_false {s : St} {l : Lock} (h : lockFree s l = false) :
    ∃ (j : Nat) (tj : Thread), s.threads[j]? = some tj ∧ l ∈ tj.held := by
  obtain ⟨t, ht, hc⟩ := List.all_eq_false.1 h
  obtain ⟨j, hj⟩ := List.mem_iff_getElem?.1 ht
  exact ⟨j, t, hj, by simpa using hc⟩

theorem lockFree_true {s : St} {l : Lock} (h : lockFree s l = true) (j : Nat) (tj : Thread)
    (hj : s.threads[j]? = some tj) : l ∉ tj.held := by
  simpa using List.all_eq_true.1 h tj (List.mem_of_getElem? hj)

/-- A thread that holds a lock and cannot move is itself waiting for a lock that ranks above the ones it holds. -/
theorem holder_not_enabled {rank : Lock → Nat} {unb : Chan → Bool} {s : St} (hinv : Inv rank unb s)
    {t : Thread} (ht : t ∈ s.threads) {l : Lock} (hl : l ∈ t.held) (hne : enabled s t = false) :
    ∃ l' r, t.rest = .acq l' :: r ∧ rank l < rank l' := by
  have hd := hinv.disc t ht
  have hheld : t.held.isEmpty = false := List.isEmpty_eq_false_iff.2 (List.ne_nil_of_mem hl)
  -- by the discipline a holder has events left, receives nothing and sends only where `send` cannot wait
  unfold enabled at hne
  split at hne
  · next hr => rw [hr, disc, hheld] at hd; cases hd
  · next l' r hr =>
    rw [hr] at hd
    simp only [disc, Bool.and_eq_true, List.all_eq_true, decide_eq_true_eq] at hd
    exact ⟨l', r, hr, hd.1 l hl⟩
  · next hr => rw [hr, disc, hheld] at hd; cases hd
  · next c _ hr =>
    rw [hr, disc, hheld, Bool.false_or, Bool.and_eq_true] at hd
    rw [hinv.cap c hd.1] at hne
    cases hne
  · cases hne

/-- No deadlock on locks: the chain of waiters climbs in rank, and the rank is bounded. -/
theorem lock_waiter_progress {rank : Lock → Nat} {unb : Chan → Bool} {s : St} (hinv : Inv rank unb s)
    {B : Nat} (hB : ∀ l, rank l ≤ B) {t : Thread} {l : Lock} {r : List Ev} (hr : t.rest = .acq l :: r) :
    enabled s t = true ∨ ∃ tj ∈ s.threads, tj.held ≠ [] ∧ enabled s tj = true := by
  induction hn : B - rank l using Nat.strongRecOn generalizing t l r with
  | ind n ih =>
    cases he : enabled s t with
    | true => exact Or.inl rfl
    | false =>
      obtain ⟨j, tj, hj, hlj⟩ := lockFree_false (by simpa [enabled, hr] using he)
      have htj := List.mem_of_getElem? hj
      cases hej : enabled s tj with
      | true => exact Or.inr ⟨tj, htj, List.ne_nil_of_mem hlj, hej⟩
      | false =>
        obtain ⟨l', r', hr', hlt⟩ := holder_not_enabled hinv htj hlj hej
        have := hB l'
        rcases ih (B - rank l') (by omega) hr' rfl with h | h
        · rw [h] at hej; cases hej
        · exact Or.inr h

theorem wait_chain_ends {rank : Lock → Nat} {unb : Chan → Bool} {s : St} (hinv : Inv rank unb s)
    (B : Nat) (hB : ∀ l, rank l ≤ B) :
    ∀ (n : Nat) (t : Thread) (l : Lock) (r : List Ev), t ∈ s.threads → t.rest = .acq l :: r → B - rank l ≤ n →
      enabled s t = true ∨ ∃ tj ∈ s.threads, tj.held ≠ [] ∧ enabled s tj = true :=
  fun _ _ _ _ _ hr _ => lock_waiter_progress hinv hB hr

/-- what `stepThread`, `disc`, `guarded` and `heldAt` all do to `held` on event `e` -/
def heldAfter (held : List Lock) : Ev → List Lock
  | .acq l => l :: held
  | .rel l => held.erase l
  | _ => held

theorem mem_heldAfter {held : List Lock} {e : Ev} {l : Lock} (h : l ∈ heldAfter held e) : l ∈ held ∨ e = .acq l := by
  cases e with
  | acq l' =>
    rcases List.mem_cons.1 h with rfl | h
    · exact Or.inr rfl
    · exact Or.inl h
  | rel l' => exact Or.inl (List.mem_of_mem_erase h)
  | _ => exact Or.inl h

theorem stepThread_cons (q : Chan → Nat) (t : Thread) (k : Nat) {e : Ev} {r : List Ev} (h : t.rest = e :: r) :
    (stepThread q t k).1 = { t with rest := r, held := heldAfter t.held e } := by
  unfold stepThread; rw [h]; cases e <;> rfl

theorem stepThread_nil (q : Chan → Nat) (t : Thread) (k : Nat) (h : t.rest = []) :
    (stepThread q t k).1 = match t.body with | some ps => { t with rest := ps[k]?.getD [] } | none => t := by
  unfold stepThread; rw [h]; cases t.body <;> rfl

theorem step_cases (s : St) (ik : Nat × Nat) :
    step s ik = s ∨ ∃ t, s.threads[ik.1]? = some t ∧ enabled s t = true ∧
      step s ik = { s with threads := s.threads.set ik.1 (stepThread s.queued t ik.2).1,
                           queued := (stepThread s.queued t ik.2).2 } := by
  unfold step
  split
  · exact Or.inl rfl
  · next t hi =>
    split
    · next he => exact Or.inr ⟨t, hi, he, rfl⟩
    · exact Or.inl rfl

theorem step_forall {P : Thread → Prop} {s : St} (ik : Nat × Nat) (h : ∀ t ∈ s.threads, P t)
    (hcons : ∀ t ∈ s.threads, ∀ e r, t.rest = e :: r → P { t with rest := r, held := heldAfter t.held e })
    (hloop : ∀ t ∈ s.threads, ∀ ps, t.rest = [] → t.body = some ps → P { t with rest := ps[ik.2]?.getD [] }) :
    ∀ t ∈ (step s ik).threads, P t := by
  rcases step_cases s ik with h' | ⟨t, hi, _, h'⟩ <;> rw [h']
  · exact h
  · have ht := List.mem_of_getElem? hi
    intro t' ht'
    rcases List.mem_or_eq_of_mem_set ht' with h' | rfl
    · exact h t' h'
    · cases hr : t.rest with
      | cons e r => rw [stepThread_cons _ _ _ hr]; exact hcons t ht e r hr
      | nil =>
        rw [stepThread_nil _ _ _ hr]
        split
        · next ps hb => exact hloop t ht ps hr hb
        · exact h t ht

theorem holder_step {s : St} {ik : Nat × Nat} {j : Nat} {tj : Thread} {l : Lock}
    (hj : (step s ik).threads[j]? = some tj) (hl : l ∈ tj.held) :
    ∃ t0, s.threads[j]? = some t0 ∧ (l ∈ t0.held ∨ (j = ik.1 ∧ lockFree s l = true)) := by
  rcases step_cases s ik with h' | ⟨t, hi, he, h'⟩ <;> rw [h'] at hj
  · exact ⟨tj, hj, Or.inl hl⟩
  · by_cases hij : j = ik.1
    · subst hij
      rw [List.getElem?_set_self (List.getElem?_eq_some_iff.1 hi).1] at hj
      cases hj
      refine ⟨t, hi, ?_⟩
      cases hr : t.rest with
      | nil => rw [stepThread_nil _ _ _ hr] at hl; split at hl <;> exact Or.inl hl
      | cons e r =>
        rw [stepThread_cons _ _ _ hr] at hl
        rcases mem_heldAfter hl with h | rfl
        · exact Or.inl h
        · exact Or.inr ⟨rfl, by simpa [enabled, hr] using he⟩
    · rw [List.getElem?_set_ne (Ne.symm hij)] at hj
      exact ⟨tj, hj, Or.inl hl⟩

theorem disc_tail {rank : Lock → Nat} {unb : Chan → Bool} {held : List Lock} {e : Ev} {r : List Ev}
    (h : disc rank unb held (e :: r) = true) : disc rank unb (heldAfter held e) r = true := by
  cases e <;> simp only [disc, Bool.and_eq_true] at h <;> first | exact h.2 | exact h

theorem disc_nil {rank : Lock → Nat} {unb : Chan → Bool} {held : List Lock} (h : disc rank unb held [] = true) :
    held = [] :=
  List.isEmpty_iff.1 h

theorem getD_mem {α} {ps : List (List α)} {k : Nat} {P : List α → Prop} (h0 : P []) (h : ∀ p ∈ ps, P p) :
    P (ps[k]?.getD []) := by
  cases hk : ps[k]? with
  | none => exact h0
  | some p => exact h p (List.mem_of_getElem? hk)

theorem Inv_step {rank : Lock → Nat} {unb : Chan → Bool} {s : St} (hinv : Inv rank unb s) (ik : Nat × Nat) :
    Inv rank unb (step s ik) := by
  have hcap : (step s ik).cap = s.cap := by rcases step_cases s ik with h | ⟨_, _, _, h⟩ <;> rw [h]
  refine ⟨?_, ?_, ?_, by rw [hcap]; exact hinv.cap⟩
  · exact step_forall ik hinv.disc
      (fun t ht e r hr => disc_tail (by rw [← hr]; exact hinv.disc t ht))
      (fun t ht ps hr hb => by
        -- a loop iteration starts from a finished thread, which holds nothing
        rw [show t.held = [] from disc_nil (by rw [← hr]; exact hinv.disc t ht)]
        exact getD_mem (P := fun p => disc rank unb [] p = true) rfl (hinv.body t ht ps hb))
  · exact step_forall ik hinv.body (fun t ht _ _ _ => hinv.body t ht) (fun t ht _ _ _ => hinv.body t ht)
  · intro i j ti tj l hi hj hli hlj
    obtain ⟨ti0, hi0, hi1⟩ := holder_step hi hli
    obtain ⟨tj0, hj0, hj1⟩ := holder_step hj hlj
    rcases hi1 with hi1 | ⟨rfl, hf⟩ <;> rcases hj1 with hj1 | ⟨rfl, hf'⟩
    · exact hinv.excl _ _ _ _ l hi0 hj0 hi1 hj1
    · exact absurd hi1 (lockFree_true hf' _ _ hi0)
    · exact absurd hj1 (lockFree_true hf _ _ hj0)
    · rfl

theorem Inv_run {rank : Lock → Nat} {unb : Chan → Bool} (sched : List (Nat × Nat)) {s : St} (h : Inv rank unb s) :
    Inv rank unb (run s sched) :=
  List.foldlRecOn (motive := Inv rank unb) sched step h fun _ h ik _ => Inv_step h ik

theorem forall_initSt {unb : Chan → Bool} {capOf : Chan → Nat} {reqs : List (List Ev)} {tasks : List (List (List Ev))}
    {P : Thread → Prop} : (∀ t ∈ (initSt unb capOf reqs tasks).threads, P t) ↔
      (∀ p ∈ reqs, P ⟨p, [], none⟩) ∧ ∀ ps ∈ tasks, P ⟨[], [], some ps⟩ := by
  simp only [initSt, List.forall_mem_append, List.forall_mem_map]

theorem getElem?_map_append {α β} {f : α → β} {l : List α} (l' : List β) {i : Nat} {a : α} (h : l[i]? = some a) :
    (l.map f ++ l')[i]? = some (f a) := by
  rw [List.getElem?_append_left (by simpa using (List.getElem?_eq_some_iff.1 h).1), List.getElem?_map, h]
  rfl

theorem initSt_get {unb : Chan → Bool} {capOf : Chan → Nat} {reqs : List (List Ev)} {tasks : List (List (List Ev))}
    {i : Nat} {p : List Ev} (h : reqs[i]? = some p) : (initSt unb capOf reqs tasks).threads[i]? = some ⟨p, [], none⟩ :=
  getElem?_map_append _ h

theorem Inv_init {rank : Lock → Nat} {unb : Chan → Bool} {capOf : Chan → Nat} {reqs : List (List Ev)}
    {tasks : List (List (List Ev))}
    (hreq : ∀ p ∈ reqs, disc rank unb [] p = true)
    (htask : ∀ ps ∈ tasks, ∀ p ∈ ps, disc rank unb [] p = true) :
    Inv rank unb (initSt unb capOf reqs tasks) := by
  refine ⟨forall_initSt.2 ⟨hreq, fun _ _ => rfl⟩,
    forall_initSt.2 ⟨fun _ _ _ => nofun, fun ps hps _ h => by cases h; exact htask ps hps⟩, ?_, ?_⟩
  · intro i j ti tj l hi _ hli _
    have hnone : ∀ t ∈ (initSt unb capOf reqs tasks).threads, l ∉ t.held :=
      forall_initSt.2 ⟨fun _ _ => List.not_mem_nil, fun _ _ => List.not_mem_nil⟩
    exact absurd hli (hnone ti (List.mem_of_getElem? hi))
  · intro c hc
    simp [initSt, hc]

def ReqNoWait (unb : Chan → Bool) (s : St) : Prop := ∀ t ∈ s.threads, t.body = none → noWait unb t.rest = true

theorem noWait_tail {unb : Chan → Bool} {e : Ev} {r : List Ev} (h : noWait unb (e :: r) = true) : noWait unb r = true := by
  cases e <;> simp_all [noWait]

theorem ReqNoWait_step {unb : Chan → Bool} {s : St} (h : ReqNoWait unb s) (ik : Nat × Nat) : ReqNoWait unb (step s ik) :=
  step_forall ik h
    (fun t ht e r hr hb => noWait_tail (by rw [← hr]; exact h t ht hb))
    (fun t _ ps _ hb hb' => by rw [hb] at hb'; cases hb')

theorem ReqNoWait_run {unb : Chan → Bool} (sched : List (Nat × Nat)) {s : St} (h : ReqNoWait unb s) :
    ReqNoWait unb (run s sched) :=
  List.foldlRecOn (motive := ReqNoWait unb) sched step h fun _ h ik _ => ReqNoWait_step h ik

theorem ReqNoWait_init {unb : Chan → Bool} {capOf : Chan → Nat} {reqs : List (List Ev)} {tasks : List (List (List Ev))}
    (hreq : ∀ p ∈ reqs, noWait unb p = true) : ReqNoWait unb (initSt unb capOf reqs tasks) :=
  forall_initSt.2 ⟨fun p hp _ => hreq p hp, fun _ _ => nofun⟩

theorem request_progress {rank : Lock → Nat} {unb : Chan → Bool} {s : St} (hinv : Inv rank unb s)
    (hnw : ReqNoWait unb s) {B : Nat} (hB : ∀ l, rank l ≤ B) {t : Thread} (ht : t ∈ s.threads) (hb : t.body = none)
    (hunf : t.rest ≠ []) :
    enabled s t = true ∨
      ((∃ l r, t.rest = .acq l :: r) ∧ ∃ tj ∈ s.threads, tj.held ≠ [] ∧ enabled s tj = true) := by
  have h := hnw t ht hb
  cases hr : t.rest with
  | nil => exact absurd hr hunf
  | cons e r =>
    rw [hr] at h
    cases e with
    | acq l => exact (lock_waiter_progress hinv hB hr).imp_right fun h' => ⟨⟨l, r, rfl⟩, h'⟩
    | recv c => cases h
    | send c =>
      simp only [noWait, Bool.and_eq_true] at h
      exact Or.inl (by simp [enabled, hr, hinv.cap c h.1])
    | _ => exact Or.inl (by simp [enabled, hr])

end Chokan.Conc
